import HermesProofs.AutoFert
import HermesProofs.Calendar
import HermesProofs.Config
import HermesProofs.Crop
import HermesProofs.CropDay
import HermesProofs.CropOverride
import HermesProofs.CropParam
import HermesProofs.Cursor
import HermesProofs.Decimals
import HermesProofs.Denitmo
import HermesProofs.Dispatch
import HermesProofs.Evatra
import HermesProofs.EvatraPet
import HermesProofs.FertPool
import HermesProofs.FilePool
import HermesProofs.GroundWater
import HermesProofs.Harvest
import HermesProofs.ImpDenitr
import HermesProofs.ImpLemmas
import HermesProofs.ImpMineralDissolved
import HermesProofs.ImpMineralMoisture
import HermesProofs.ImpMineralNonneg
import HermesProofs.ImpMineralPools
import HermesProofs.ImpNmoveCredit
import HermesProofs.ImpNmoveNonneg
import HermesProofs.ImpNmoveUptake
import HermesProofs.ImpSetFC
import HermesProofs.ImpSoiltemp
import HermesProofs.ImpVern
import HermesProofs.ImpWaterCascades
import HermesProofs.ImpWaterLoops
import HermesProofs.ImpWaterStages
import HermesProofs.Interval
import HermesProofs.Ite
import HermesProofs.LangTag
import HermesProofs.ListLemmas
import HermesProofs.Mineral
import HermesProofs.Nitro
import HermesProofs.Output
import HermesProofs.Partition
import HermesProofs.PlantArith
import HermesProofs.Ptf4Cert
import HermesProofs.RatInst
import HermesProofs.Readers
import HermesProofs.RecordLoop
import HermesProofs.Rotation
import HermesProofs.Schedule
import HermesProofs.SoilParams
import HermesProofs.SoilParamsGw
import HermesProofs.SoilParamsPtf
import HermesProofs.SoilParamsTable
import HermesProofs.SoilTemp
import HermesProofs.SourceTie
import HermesProofs.Substeps
import HermesProofs.SumFrom
import HermesProofs.WalkStates
import HermesProofs.Water
import HermesProofs.WaterBounds
import HermesProofs.Weather
import HermesProofs.WeatherNorm
import HermesProofs.WeatherNormRun
import HermesProofs.WeatherReaders
import HermesProofs.WeatherRun
