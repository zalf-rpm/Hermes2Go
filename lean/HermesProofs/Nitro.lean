/-
Lemmas about the transport model `Nitro.step` (nmove) over ℚ (exact arithmetic): the dispersion
terms telescope, the convective interface fluxes agree, sums of the layer-wise updates.
-/
import HermesProofs.RatInst
import HermesProofs.SumFrom
import HermesModel.Nitro
import Mathlib.Tactic.Linarith
import Mathlib.Tactic.Ring
import Mathlib.Tactic.FieldSimp
import Mathlib.Tactic.Positivity
import Mathlib.Tactic.LinearCombination

namespace Hermes.Nitro

/-- dispersion below a given upper interface: the terms of the remaining layers sum to the flux
through that interface (zero flux at the profile bottom) -/
theorem dispGo_some_sum (dz2 : ℚ) (tl : List (ℚ × ℚ)) (dbp cp c db : ℚ) :
    (dispGo dz2 (some (dbp, cp)) ((c, db) :: tl)).sum = dbp * (cp - c) / dz2 := by
  induction tl generalizing dbp cp c db with
  | nil => simp [dispGo]
  | cons hd tl ih =>
    rw [dispGo, List.sum_cons, ih]
    ring

theorem dispGo_none_sum (dz2 : ℚ) (l : List (ℚ × ℚ)) (h : 2 ≤ l.length) :
    (dispGo dz2 none l).sum = 0 := by
  match l, h with
  | (c, db) :: (c2, db2) :: rest, _ =>
    rw [dispGo, List.sum_cons, dispGo_some_sum]
    ring

/-- the flux the code uses at the top interface of a layer (`top`: the uppermost layer) -/
def topTerm (top : Bool) (cUp c qTop : ℚ) : ℚ :=
  if qTop < 0 then (if top then 0 else c * qTop) else cUp * qTop

/-- the flux the code uses at the bottom interface of a layer -/
def botTerm (c cDown qBot : ℚ) : ℚ := if qBot < 0 then cDown * qBot else c * qBot

/-- what the code sends to the drain from a layer: the drain layer loses `c·QDRAIN` whatever the
directions of the fluxes through its boundaries -/
def drainTerm (qdrain : ℚ) (drain : Bool) (c : ℚ) : ℚ := if drain then c * qdrain else 0

theorem konvLayer_eq (dz qd : ℚ) (top drain : Bool) (cUp c cDown qTop qBot : ℚ) :
    konvLayer dz qd top drain cUp c cDown qTop qBot
      = (botTerm c cDown qBot + drainTerm qd drain c - topTerm top cUp c qTop) / dz := by
  unfold konvLayer botTerm drainTerm topTerm
  split_ifs <;> simp only [add_zero, sub_zero]

/-- below the uppermost layer, a layer takes in through its top what the layer above loses
through its bottom -/
theorem topTerm_below (cUp c q : ℚ) : topTerm false cUp c q = botTerm cUp c q := by
  simp only [topTerm, botTerm, Bool.false_eq_true, if_false]

/-- nothing enters through the top of the uppermost layer: the concentration above the profile is 0 -/
theorem topTerm_top (c q : ℚ) : topTerm true 0 c q = 0 := by
  simp only [topTerm, if_true, zero_mul, ite_self]

/-- flux through the profile bottom: percolation carries the concentration of the last layer,
inflow from below carries none -/
def bottomOut : List (ℚ × ℚ) → ℚ
  | [] => 0
  | [(c, q)] => if q < 0 then 0 else c * q
  | _ :: x :: rest => bottomOut (x :: rest)

def drainSum (qd : ℚ) (dd : ℕ) : ℕ → ℚ → List (ℚ × ℚ) → ℚ
  | _, _, [] => 0
  | z, qTop, (c, qBot) :: rest =>
      drainTerm qd (z == dd) c + drainSum qd dd (z + 1) qBot rest

/-- the convection terms telescope (`topTerm_below`): what is left is the flux through the profile
bottom, the drain terms and the flux through the top of the first layer of the list -/
theorem konvGo_sum (dz qd : ℚ) (dd : ℕ) (hdz : dz ≠ 0) (l : List (ℚ × ℚ)) (z : ℕ) (cUp qTop : ℚ) (hz1 : 1 ≤ z) :
      dz * (konvGo dz qd dd z cUp qTop l).sum =
        match l with
        | [] => 0
        | (c, _) :: _ => bottomOut l + drainSum qd dd z qTop l - topTerm (z == 1) cUp c qTop := by
  fun_induction konvGo dz qd dd z cUp qTop l with
  | case1 => simp
  | case2 z cUp qTop c qBot rest ih =>
    simp only [List.sum_cons, drainSum, mul_add]
    rw [ih (by omega), konvLayer_eq, mul_div_cancel₀ _ hdz]
    cases rest with
    | nil => simp only [bottomOut, drainSum, botTerm, zero_mul]; ring
    | cons hd2 tl2 =>
      have hz : ((z + 1 == 1) : Bool) = false := by simp; omega
      simp only [bottomOut, hz, topTerm_below]
      ring

/-- from the top of the profile: nothing enters with the rain (concentration 0 above the profile) -/
theorem konvGo_top_sum (dz qd : ℚ) (dd : ℕ) (hdz : dz ≠ 0) (l : List (ℚ × ℚ)) (qTop : ℚ) :
    dz * (konvGo dz qd dd 1 0 qTop l).sum = bottomOut l + drainSum qd dd 1 qTop l := by
  rw [konvGo_sum dz qd dd hdz l 1 0 qTop le_rfl]
  cases l with
  | nil => simp [bottomOut, drainSum]
  | cons hd tl => simp only [beq_self_eq_true, topTerm_top, sub_zero]

theorem zip_induction {P : ∀ a b : List ℚ, a.length = b.length → Prop} (nil : P [] [] rfl)
    (cons : ∀ x xs y ys (h : xs.length = ys.length), P xs ys h → P (x :: xs) (y :: ys) (congrArg (· + 1) h)) :
    ∀ a b h, P a b h
  | [], [], _ => nil
  | x :: xs, y :: ys, h =>
    cons x xs y ys (Nat.succ.inj h) (zip_induction nil cons xs ys (Nat.succ.inj h))

theorem zip_induction₃ {P : ∀ a b c : List ℚ, a.length = b.length → b.length ≤ c.length → Prop}
    (nil : ∀ c, P [] [] c rfl (Nat.zero_le _))
    (cons : ∀ x xs y ys z zs (h1 : xs.length = ys.length) (h2 : ys.length ≤ zs.length), P xs ys zs h1 h2 →
      P (x :: xs) (y :: ys) (z :: zs) (congrArg (· + 1) h1) (Nat.succ_le_succ h2)) :
    ∀ a b c h1 h2, P a b c h1 h2
  | [], [], c, _, _ => nil c
  | x :: xs, y :: ys, z :: zs, h1, h2 =>
    cons x xs y ys z zs (Nat.succ.inj h1) (Nat.le_of_succ_le_succ h2)
      (zip_induction₃ nil cons xs ys zs (Nat.succ.inj h1) (Nat.le_of_succ_le_succ h2))

theorem zipWith3_length {β : Type} (f : ℚ → ℚ → ℚ → β) (a b c : List ℚ) (h1 : a.length = b.length)
    (h2 : b.length ≤ c.length) : (zipWith3 f a b c).length = a.length := by
  induction a, b, c, h1, h2 using zip_induction₃ with
  | nil c => simp [zipWith3]
  | cons x xs y ys z zs _ _ ih => simp [zipWith3, ih]

theorem sum_zipWith3_newC (dz : ℚ) (a b c : List ℚ) (h1 : a.length = b.length) (h2 : b.length ≤ c.length) :
    (zipWith3 (newC dz) a b c).sum = (a.sum + b.sum - (c.take a.length).sum) * dz * 100 := by
  induction a, b, c, h1, h2 using zip_induction₃ with
  | nil c => simp [zipWith3]
  | cons x xs y ys z zs _ _ ih =>
    simp only [zipWith3, List.sum_cons, List.length_cons, List.take_succ_cons, ih, newC]
    ring

theorem uptake_length (c p : List ℚ) (h : c.length = p.length) : (uptake c p).length = c.length := by
  induction c, p, h using zip_induction with
  | nil => simp [uptake]
  | cons x xs y ys _ ih => simp [uptake, ih]

theorem dbGo_length (wdt dv : ℚ) :
    ∀ (d wg w q : List ℚ), wg.length = d.length + 1 → w.length = d.length + 1 → q.length = d.length + 1 →
      (dbGo wdt dv d wg w q).length = d.length := by
  intro d
  induction d with
  | nil => intro wg w q _ _ _; simp [dbGo]
  | cons x xs ih =>
    intro wg w q hwg hw hq
    match wg, w, q, hwg, hw, hq with
    | a :: b :: wgs, c :: e :: ws, f :: g :: qs, hwg, hw, hq =>
      simp only [dbGo, List.length_cons]
      rw [ih (b :: wgs) (e :: ws) (g :: qs) (by simpa using hwg) (by simpa using hw) (by simpa using hq)]

theorem dispGo_length (dz2 : ℚ) (l : List (ℚ × ℚ)) (p : Option (ℚ × ℚ)) : (dispGo dz2 p l).length = l.length := by
  fun_induction dispGo dz2 p l with
  | case1 => rfl
  | case2 => rfl
  | case3 _ _ _ _ _ ih => simp [ih]
  | case4 => rfl
  | case5 _ _ _ _ _ _ _ ih => simp [ih]

theorem konvGo_length (dz qd : ℚ) (dd : ℕ) (l : List (ℚ × ℚ)) (z : ℕ) (cUp qTop : ℚ) :
    (konvGo dz qd dd z cUp qTop l).length = l.length := by
  fun_induction konvGo dz qd dd z cUp qTop l with
  | case1 => rfl
  | case2 _ _ _ _ _ _ ih => simp [ih]

/-- the arrays of the state have the `n ≥ 2` entries of the layers, `wg` and `w` one more (the layer below the
profile); no condition on any value -/
structure WF (i : In ℚ) (n : ℕ) : Prop where
  two : 2 ≤ n
  c1 : i.c1.length = n
  pe : i.pe.length = n
  dn : i.dn.length = n
  q : i.q.length = n
  d : i.d.length = n
  wg : i.wg.length = n + 1
  w : i.w.length = n + 1

theorem step_pe (i : In ℚ) : (step i).pe = (phaseUptake i).map (·.2) := rfl

theorem step_carr (i : In ℚ) :
    (step i).carr = zipWith3 (conc i.dz i.wdt) ((phaseUptake i).map (·.1)) i.dn i.wg := rfl

theorem step_db (i : In ℚ) : (step i).db = (dbGo i.wdt i.dv i.d i.wg i.w (q1Of i)).map (·.2) := rfl

theorem step_disp (i : In ℚ) : (step i).disp = dispGo (i.dz * i.dz) none ((step i).carr.zip (step i).db) := rfl

theorem step_konv (i : In ℚ) :
    (step i).konv = konvGo i.dz i.qdrain i.draidep 1 0 (i.fluss0 * i.wdt) ((step i).carr.zip i.q) := rfl

theorem step_ck (i : In ℚ) :
    (step i).ck = zipWith3 (newC i.dz) (List.zipWith (· * ·) (step i).carr i.wg) (step i).disp (step i).konv := rfl

theorem step_c1 (i : In ℚ) :
    (step i).c1 = List.zipWith (fun c dn => clamp0 (clamp0 c + dn * i.wdt / 2)) (step i).ck i.dn := rfl

theorem step_outsum (i : In ℚ) :
    (step i).outsum = leachAdd i.dz (i.outn < i.c1.length) i.outsum ((q1Of i).getD i.outn 0)
      (carrGet (step i).carr i.outn) (carrGet (step i).carr (i.outn + 1)) ((step i).db.getD (i.outn - 1) 0) := rfl

theorem step_drainloss (i : In ℚ) :
    (step i).drainloss = i.drainloss + i.qdrain * carrGet (step i).carr i.draidep / i.dz * 100 * i.dz := rfl

theorem step_aufnasum (i : In ℚ) :
    (step i).aufnasum = if i.first then sumFrom i.aufnasum (step i).pe else i.aufnasum := rfl

theorem step_pesum (i : In ℚ) :
    (step i).pesum = if i.first then
        (if i.inSeason then sumFrom i.pesum (step i).pe + i.schnorr else sumFrom i.pesum (step i).pe)
      else i.pesum := rfl

theorem c1u_length (i : In ℚ) (n : ℕ) (h : WF i n) : ((phaseUptake i).map (·.1)).length = n := by
  rw [List.length_map]
  unfold phaseUptake
  split
  · rw [uptake_length _ _ (h.c1.trans h.pe.symm), h.c1]
  · rw [List.length_zip, h.c1, h.pe, min_self]

theorem carr_length (i : In ℚ) (n : ℕ) (h : WF i n) : (step i).carr.length = n := by
  have hu := c1u_length i n h
  rw [step_carr, zipWith3_length _ _ _ _ (hu.trans h.dn.symm) (by rw [h.dn, h.wg]; omega), hu]

theorem db_length (i : In ℚ) (n : ℕ) (h : WF i n) : (step i).db.length = n := by
  rw [step_db, List.length_map, dbGo_length _ _ _ _ _ _ (by rw [h.wg, h.d]) (by rw [h.w, h.d]) (by simp [q1Of, h.q, h.d]), h.d]

/-- the three lists that `step_ck` zips have `n` entries -/
theorem parts_length (i : In ℚ) (n : ℕ) (h : WF i n) :
    (List.zipWith (· * ·) (step i).carr i.wg).length = n ∧ (step i).disp.length = n ∧ (step i).konv.length = n := by
  have hc := carr_length i n h
  refine ⟨by rw [List.length_zipWith, hc, h.wg]; omega, ?_, ?_⟩
  · rw [step_disp, dispGo_length, List.length_zip, hc, db_length i n h, min_self]
  · rw [step_konv, konvGo_length, List.length_zip, hc, h.q, min_self]

theorem ck_length (i : In ℚ) (n : ℕ) (h : WF i n) : (step i).ck.length = n := by
  obtain ⟨h1, h2, h3⟩ := parts_length i n h
  rw [step_ck, zipWith3_length _ _ _ _ (h1.trans h2.symm) (h2.trans h3.symm).le, h1]

/-- N leaving through the profile bottom (kg N/ha ÷ 100) in one call -/
def bottomFlux (i : In ℚ) : ℚ := bottomOut ((step i).carr.zip i.q)

/-- N the convection terms send to the drain (kg N/ha ÷ 100) in one call -/
def drainFlux (i : In ℚ) : ℚ := drainSum i.qdrain i.draidep 1 (i.fluss0 * i.wdt) ((step i).carr.zip i.q)

theorem step_ck_sum (i : In ℚ) (n : ℕ) (h : WF i n) (hdz : i.dz ≠ 0) :
    (step i).ck.sum = (List.zipWith (· * ·) (step i).carr i.wg).sum * i.dz * 100
      - 100 * (bottomFlux i + drainFlux i) := by
  obtain ⟨h1, h2, h3⟩ := parts_length i n h
  have hk : i.dz * (step i).konv.sum = bottomFlux i + drainFlux i := konvGo_top_sum _ _ _ hdz _ _
  have hd : (step i).disp.sum = 0 := by
    rw [step_disp] at h2 ⊢
    exact dispGo_none_sum _ _ (by rw [← dispGo_length, h2]; exact h.two)
  rw [step_ck, sum_zipWith3_newC _ _ _ _ (h1.trans h2.symm) (h2.trans h3.symm).le, hd,
    List.take_of_length_le (by rw [h1, h3])]
  linear_combination (-100) * hk

/-- `P` holds at every common index of the two lists (nothing is said about a longer tail) -/
def AllPairs (P : ℚ → ℚ → Prop) : List ℚ → List ℚ → Prop
  | a :: as, b :: bs => P a b ∧ AllPairs P as bs
  | _, _ => True

/-- `P` holds at every common index of the three lists -/
def AllTriples (P : ℚ → ℚ → ℚ → Prop) : List ℚ → List ℚ → List ℚ → Prop
  | a :: as, b :: bs, c :: cs => P a b c ∧ AllTriples P as bs cs
  | _, _, _ => True

theorem clamp0_eq_max (x : ℚ) : clamp0 x = max x 0 := (max_def_lt x 0).symm
theorem clamp0_ge (x : ℚ) : x ≤ clamp0 x := clamp0_eq_max x ▸ le_max_left x 0
theorem clamp0_nonneg (x : ℚ) : 0 ≤ clamp0 x := clamp0_eq_max x ▸ le_max_right x 0
theorem clamp0_of_nonneg (x : ℚ) (h : 0 ≤ x) : clamp0 x = x := (clamp0_eq_max x).trans (max_eq_left h)
theorem takeUp_ge (c p : ℚ) : c - p ≤ takeUp c p := clamp0_ge (c - p)

/-- the clamped uptake is ≥ 0 and leaves the layer 0.5 kg N/ha, unless it is 0 -/
theorem clampPe_bd (c p : ℚ) : 0 ≤ clampPe c p ∧ (clampPe c p ≤ c - 0.5 ∨ clampPe c p = 0) := by
  unfold clampPe
  dsimp only
  split_ifs with h1 h2 h2
  · exact ⟨le_refl _, Or.inr rfl⟩
  · exact ⟨not_lt.mp h2, Or.inl (le_refl _)⟩
  · exact ⟨le_refl _, Or.inr rfl⟩
  · exact ⟨not_lt.mp h2, Or.inl (not_lt.mp h1)⟩

theorem zip_map_snd : ∀ (c p : List ℚ), c.length = p.length → (c.zip p).map (·.2) = p :=
  fun _ _ h => List.map_snd_zip h.ge

theorem conc_mul_ge (dz wdt a b w : ℚ) (h : 0 < w * dz * 100) :
    a + b * wdt / 2 ≤ conc dz wdt a b w * (w * dz * 100) := by
  have h1 := mul_le_mul_of_nonneg_right (clamp0_ge ((a + b * wdt / 2) / (w * dz * 100))) h.le
  rwa [div_mul_cancel₀ _ h.ne'] at h1

theorem conc_mul_eq (dz wdt a b w : ℚ) (hne : w * dz * 100 ≠ 0)
    (hnc : ¬ (a + b * wdt / 2) / (w * dz * 100) < 0) :
    conc dz wdt a b w * (w * dz * 100) = a + b * wdt / 2 := by
  rw [conc, clamp0_of_nonneg _ (not_lt.mp hnc), div_mul_cancel₀ _ hne]

theorem uptake_sum (c p : List ℚ) (hl : c.length = p.length) :
    c.sum - ((uptake c p).map (·.2)).sum ≤ ((uptake c p).map (·.1)).sum ∧
    (AllPairs (fun c p => ¬ (c - clampPe c p < 0)) c p →
      ((uptake c p).map (·.1)).sum = c.sum - ((uptake c p).map (·.2)).sum) := by
  induction c, p, hl using zip_induction with
  | nil => simp [uptake]
  | cons x xs y ys _ ih =>
    simp only [uptake, List.map_cons, List.sum_cons]
    constructor
    · linear_combination takeUp_ge x (clampPe x y) + ih.1
    · intro hp
      rw [ih.2 hp.2, takeUp, if_neg hp.1]
      ring

/-- Σ CARR·WG·dz·100 against the mineral N `a` and half the source term `b`: the clamp of the concentrations can
only add, and nothing is added where it does not engage -/
theorem carr_sum (dz wdt : ℚ) (a b w : List ℚ) (h1 : a.length = b.length) (h2 : b.length ≤ w.length) :
    (0 < dz → AllTriples (fun _ _ w => 0 < w) a b w →
      a.sum + b.sum * wdt / 2 ≤ (List.zipWith (· * ·) (zipWith3 (conc dz wdt) a b w) w).sum * dz * 100) ∧
    (AllTriples (fun a b w => w * dz * 100 ≠ 0 ∧ ¬ ((a + b * wdt / 2) / (w * dz * 100) < 0)) a b w →
      (List.zipWith (· * ·) (zipWith3 (conc dz wdt) a b w) w).sum * dz * 100 = a.sum + b.sum * wdt / 2) := by
  induction a, b, w, h1, h2 using zip_induction₃ with
  | nil w => simp [zipWith3]
  | cons x xs y ys z zs _ _ ih =>
    simp only [zipWith3, List.zipWith_cons_cons, List.sum_cons]
    constructor
    · intro hdz hp
      have hz := hp.1
      linear_combination conc_mul_ge dz wdt x y z (by positivity) + ih.1 hdz hp.2
    · intro hp
      linear_combination conc_mul_eq dz wdt x y z hp.1.1 hp.1.2 + ih.2 hp.2

/-- the last loop of `nmove` (second half of the source term, two clamps) against ΣCK + ΣDN·wdt/2 -/
theorem fin_sum (wdt : ℚ) (ck dn : List ℚ) (hl : ck.length = dn.length) :
    ck.sum + dn.sum * wdt / 2 ≤ (List.zipWith (fun c dn => clamp0 (clamp0 c + dn * wdt / 2)) ck dn).sum ∧
    (AllPairs (fun c d => ¬ c < 0 ∧ ¬ (c + d * wdt / 2 < 0)) ck dn →
      (List.zipWith (fun c dn => clamp0 (clamp0 c + dn * wdt / 2)) ck dn).sum = ck.sum + dn.sum * wdt / 2) := by
  induction ck, dn, hl using zip_induction with
  | nil => simp
  | cons x xs y ys _ ih =>
    simp only [List.zipWith_cons_cons, List.sum_cons]
    constructor
    · linear_combination clamp0_ge x + clamp0_ge (clamp0 x + y * wdt / 2) + ih.1
    · intro hp
      rw [ih.2 hp.2, clamp0_of_nonneg _ (not_lt.mp hp.1.1), clamp0_of_nonneg _ (not_lt.mp hp.1.2)]
      ring

structure NoClamp (i : In ℚ) : Prop where
  up : i.first = true → AllPairs (fun c p => ¬ (c - clampPe c p < 0)) i.c1 i.pe
  carr : AllTriples (fun a b w => w * i.dz * 100 ≠ 0 ∧ ¬ ((a + b * i.wdt / 2) / (w * i.dz * 100) < 0))
          ((phaseUptake i).map (·.1)) i.dn i.wg
  fin : AllPairs (fun c d => ¬ c < 0 ∧ ¬ (c + d * i.wdt / 2 < 0)) (step i).ck i.dn

/-- the amount of N taken up in this call (only the first sub-step of a day takes up) -/
def uptaken (i : In ℚ) : ℚ := if i.first then (step i).pe.sum else 0

/-- ΣC1 after the uptake block against ΣC1 − uptake -/
theorem c1u_sum (i : In ℚ) (n : ℕ) (h : WF i n) :
    i.c1.sum - uptaken i ≤ ((phaseUptake i).map (·.1)).sum ∧
    ((i.first = true → AllPairs (fun c p => ¬ (c - clampPe c p < 0)) i.c1 i.pe) →
      ((phaseUptake i).map (·.1)).sum = i.c1.sum - uptaken i) := by
  have hl := h.c1.trans h.pe.symm
  unfold uptaken
  rw [step_pe]
  unfold phaseUptake
  cases hf : i.first
  · simp [List.map_fst_zip hl.le]
  · exact ⟨(uptake_sum _ _ hl).1, fun hup => (uptake_sum _ _ hl).2 (hup rfl)⟩

/-- later sub-steps touch neither the uptake counter nor the crop N -/
theorem step_later_counters (j : In ℚ) (o : Out ℚ) :
    (step (feed j o)).aufnasum = o.aufnasum ∧ (step (feed j o)).pesum = o.pesum :=
  ⟨rfl, rfl⟩

theorem runRest_const {β : Type} (f : Out ℚ → β) (hf : ∀ j o, f (step (feed j o)) = f o) :
    ∀ (rest : List (In ℚ)) (o : Out ℚ), f (runRest o rest) = f o
  | [], _ => rfl
  | j :: tl, o => (runRest_const f hf tl _).trans (hf j o)

theorem step_first_counters (i : In ℚ) (hf : i.first = true) :
    (step i).aufnasum = i.aufnasum + (step i).pe.sum ∧
    (step i).pesum = i.pesum + (step i).pe.sum + (if i.inSeason then i.schnorr else 0) := by
  rw [step_aufnasum, step_pesum, hf, if_pos rfl, if_pos rfl, sumFrom_eq, sumFrom_eq]
  refine ⟨rfl, ?_⟩
  split <;> ring

theorem drainSum_eq (qd : ℚ) (dd : ℕ) (l : List (ℚ × ℚ)) (z : ℕ) (qTop : ℚ) :
    drainSum qd dd z qTop l = qd * (if z ≤ dd then (l.map (·.1)).getD (dd - z) 0 else 0) := by
  fun_induction drainSum qd dd z qTop l with
  | case1 => simp
  | case2 z qTop c qBot rest ih =>
    simp only [ih, drainTerm, List.map_cons]
    rcases Nat.lt_trichotomy z dd with h | rfl | h
    · rw [show dd - z = (dd - (z + 1)) + 1 by omega]
      simp [h.ne, h.le, Nat.succ_le_of_lt h]
    · simp; ring
    · simp [h.ne', Nat.not_le.mpr h, Nat.not_le.mpr (Nat.lt_succ_of_lt h)]

theorem carrGet_eq (carr : List ℚ) (dd : ℕ) :
    carrGet carr dd = if 1 ≤ dd then carr.getD (dd - 1) 0 else 0 := by
  unfold carrGet
  cases dd with
  | zero => simp
  | succ k => simp

theorem step_drainloss_flux (i : In ℚ) (n : ℕ) (h : WF i n) (hdz : i.dz ≠ 0) :
    (step i).drainloss = i.drainloss + 100 * drainFlux i := by
  have hc := carr_length i n h
  unfold drainFlux
  rw [step_drainloss, drainSum_eq, List.map_fst_zip (hc.trans h.q.symm).le, carrGet_eq]
  generalize (if 1 ≤ i.draidep then (step i).carr.getD (i.draidep - 1) 0 else 0) = g
  rw [div_mul_eq_mul_div, div_mul_cancel₀ _ hdz]
  ring

theorem bottomOut_getLastD (l : List (ℚ × ℚ)) (a : ℚ) :
    bottomOut l = if (l.map (·.2)).getLastD a < 0 then 0 else (l.map (·.1)).getLastD 0 * (l.map (·.2)).getLastD a := by
  fun_induction bottomOut l generalizing a with
  | case1 => simp
  | case2 _ _ h => simp [h]
  | case3 _ _ h => simp [h]
  | case4 _ _ _ ih => simpa only [List.map_cons, List.getLastD_cons] using ih a

theorem getD_length_cons : ∀ (l : List ℚ) (x d : ℚ), (x :: l).getD l.length d = l.getLastD x
  | [], _, _ => rfl
  | y :: l, x, d => by rw [List.length_cons, List.getD_cons_succ, getD_length_cons l y d, List.getLastD_cons]

/-- with the leaching depth at the profile bottom only percolation is booked -/
theorem leachAdd_bottom (dz acc q c cBelow db : ℚ) (hdz : dz ≠ 0) :
    leachAdd dz false acc q c cBelow db = acc + 100 * (if q < 0 then 0 else c * q) := by
  unfold leachAdd
  rcases lt_trichotomy q 0 with h | rfl | h
  · simp [h, h.le]
  · simp
  · simp only [h, h.not_gt, Bool.false_eq_true, if_true, if_false]
    field_simp

theorem step_outsum_flux (i : In ℚ) (n : ℕ) (h : WF i n) (hdz : i.dz ≠ 0) (hout : i.outn = n) :
    (step i).outsum = i.outsum + 100 * bottomFlux i := by
  have hc := carr_length i n h
  have e1 : (q1Of i).getD n 0 = i.q.getLastD (i.fluss0 * i.wdt) := by
    rw [← h.q]; exact getD_length_cons _ _ _
  have e2 : carrGet (step i).carr n = (step i).carr.getLastD 0 := by
    rw [← hc]; exact getD_length_cons _ _ _
  rw [step_outsum, hout, h.c1, decide_eq_false (lt_irrefl n), leachAdd_bottom _ _ _ _ _ _ hdz, e1, e2, bottomFlux,
    bottomOut_getLastD _ (i.fluss0 * i.wdt), List.map_fst_zip (hc.trans h.q.symm).le, List.map_snd_zip (hc.trans h.q.symm).ge]

/-- ΣC1 and the two loss counters over one call, against what the call takes up and receives: the clamps can only add, and
add nothing where none engages.  The four stages (`c1u_sum`, `carr_sum`, `step_ck_sum`, `fin_sum`) are summed up with the two
counters that book the boundary fluxes. -/
theorem step_total (i : In ℚ) (n : ℕ) (h : WF i n) (hdz : i.dz ≠ 0) (hout : i.outn = n) :
    (0 < i.dz → AllTriples (fun _ _ w => 0 < w) ((phaseUptake i).map (·.1)) i.dn i.wg →
      i.c1.sum + i.outsum + i.drainloss - uptaken i + i.wdt * i.dn.sum
        ≤ (step i).c1.sum + (step i).outsum + (step i).drainloss) ∧
    (NoClamp i → (step i).c1.sum + (step i).outsum + (step i).drainloss
      = i.c1.sum + i.outsum + i.drainloss - uptaken i + i.wdt * i.dn.sum) := by
  have h1 := fin_sum i.wdt (step i).ck i.dn ((ck_length i n h).trans h.dn.symm)
  have h2 := carr_sum i.dz i.wdt _ i.dn i.wg ((c1u_length i n h).trans h.dn.symm) (by rw [h.dn, h.wg]; omega)
  rw [← step_c1] at h1
  rw [← step_carr] at h2
  have hk := step_ck_sum i n h hdz
  have ho := step_outsum_flux i n h hdz hout
  have hd := step_drainloss_flux i n h hdz
  exact ⟨fun hpos hwg => by linear_combination h1.1 - hk + h2.1 hpos hwg + (c1u_sum i n h).1 - ho - hd,
    fun hc => by linear_combination h1.2 hc.fin + hk + h2.2 hc.carr + (c1u_sum i n h).2 hc.up + ho + hd⟩

/-- the hypotheses of the balance for every later sub-step of a day, along the states the day
actually goes through -/
def DayOk (n : ℕ) : Out ℚ → List (In ℚ) → Prop
  | _, [] => True
  | o, j :: rest => WF (feed j o) n ∧ (feed j o).dz ≠ 0 ∧ (feed j o).outn = n ∧ NoClamp (feed j o)
      ∧ DayOk n (step (feed j o)) rest

theorem uptaken_feed (j : In ℚ) (o : Out ℚ) : uptaken (feed j o) = 0 := rfl

theorem runRest_total (n : ℕ) (rest : List (In ℚ)) (o : Out ℚ) (hok : DayOk n o rest) :
    (runRest o rest).c1.sum + (runRest o rest).outsum + (runRest o rest).drainloss
      = o.c1.sum + o.outsum + o.drainloss + (rest.map (fun j => j.wdt * j.dn.sum)).sum := by
  fun_induction runRest o rest with
  | case1 => simp
  | case2 o j tl ih =>
    obtain ⟨hwf, hdz, hout, hnc, hrest⟩ := hok
    rw [ih hrest, (step_total (feed j o) n hwf hdz hout).2 hnc, uptaken_feed]
    simp only [feed, List.map_cons, List.sum_cons]
    ring

end Hermes.Nitro
