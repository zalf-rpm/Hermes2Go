/-
Lemmas for C18: the stage loop of the classic reader written as independent folds per array, and
the effect of changing one token of the record on those folds.
-/
import HermesProofs.CropParam
import HermesModel.CropOverride
set_option linter.unusedSectionVars false
namespace Hermes.CropOverride
open Hermes.CropParam

/-- `a[i] = x₀, a[i+1] = x₁, …` -/
def foldSet {β : Type} : List β → Nat → List β → List β
  | [], _, a => a
  | x :: xs, i, a => foldSet xs (i + 1) (a.set i x)

theorem foldSet_frame {β : Type} (xs : List β) : ∀ (i j : Nat) (a : List β) (v : β), j < i →
    foldSet xs i (a.set j v) = (foldSet xs i a).set j v := by
  induction xs with
  | nil => intros; rfl
  | cons x xs ih =>
    intro i j a v h
    simp only [foldSet]
    rw [List.set_comm _ _ (by omega : j ≠ i)]
    exact ih (i + 1) j _ v (by omega)

theorem foldSet_set {β : Type} (xs : List β) : ∀ (k i : Nat) (a : List β) (v : β), k < xs.length →
    foldSet (xs.set k v) i a = (foldSet xs i a).set (i + k) v := by
  induction xs with
  | nil => intro k i a v h; simp at h
  | cons x xs ih =>
    intro k i a v h
    cases k with
    | zero =>
      simp only [List.set_cons_zero, foldSet, Nat.add_zero]
      rw [← foldSet_frame xs (i + 1) i _ v (by omega), List.set_set]
    | succ k =>
      simp only [List.set_cons_succ, foldSet]
      rw [ih k (i + 1) _ v (by simpa using h)]
      congr 1; omega

theorem foldSet_length {β : Type} (xs : List β) : ∀ (i : Nat) (a : List β), (foldSet xs i a).length = a.length := by
  induction xs with
  | nil => intros; rfl
  | cons x xs ih => intro i a; simp [foldSet, ih]

theorem foldSet_take {β : Type} (xs : List β) : ∀ (i : Nat) (a : List β), i + xs.length ≤ a.length →
    ((foldSet xs i a).drop i).take xs.length = xs := by
  induction xs with
  | nil => intros; simp
  | cons x xs ih =>
    intro i a h
    simp only [foldSet, List.length_cons] at h ⊢
    rw [foldSet_frame xs (i + 1) i a x (by omega)]
    have hl : i < (foldSet xs (i + 1) a).length := by rw [foldSet_length]; omega
    rw [List.drop_eq_getElem_cons (by simpa using hl)]
    simp only [List.getElem_set_self, List.take_succ_cons]
    congr 1
    rw [List.drop_set]
    simp only [if_pos (Nat.lt_succ_self i)]
    exact ih (i + 1) a (by omega)

section
variable {α : Type}

/-- `m[i][L] = p₀[L] (L < n), m[i+1][L] = p₁[L], …` -/
def foldOv (n : Nat) : List (List α) → Nat → List (List α) → List (List α)
  | [], _, a => a
  | p :: ps, i, a => foldOv n ps (i + 1) (a.set i (overlay n p (a.getD i [])))

theorem getD_set_ne {β : Type} (a : List β) (i j : Nat) (v d : β) (h : j ≠ i) :
    (a.set j v).getD i d = a.getD i d := by
  simp [List.getD_eq_getElem?_getD, List.getElem?_set_ne h]

theorem foldOv_frame (n : Nat) (ps : List (List α)) : ∀ (i j : Nat) (a : List (List α)) (r : List α),
    j < i → foldOv n ps i (a.set j r) = (foldOv n ps i a).set j r := by
  induction ps with
  | nil => intros; rfl
  | cons p ps ih =>
    intro i j a r h
    simp only [foldOv]
    rw [getD_set_ne a i j r [] (by omega), List.set_comm _ _ (by omega : j ≠ i)]
    exact ih (i + 1) j _ r (by omega)

theorem overlay_set (n o : Nat) (p old : List α) (v : α) (ho : o < n) (hn : n ≤ p.length) :
    overlay n (p.set o v) old = (overlay n p old).set o v := by
  unfold overlay
  rw [List.take_set, List.set_append_left _ _ (by simp; omega)]

theorem foldOv_set (n : Nat) (ps : List (List α)) : ∀ (k i o : Nat) (a : List (List α)) (p : List α) (v : α),
    ps[k]? = some p → o < n → n ≤ p.length →
    foldOv n (ps.set k (p.set o v)) i a = setCell (foldOv n ps i a) (i + k) o v := by
  induction ps with
  | nil => intro k i o a p v h; simp at h
  | cons q ps ih =>
    intro k i o a p v h ho hp
    cases k with
    | zero =>
      obtain rfl : q = p := by simpa using h
      simp only [List.set_cons_zero, foldOv, Nat.add_zero]
      rw [overlay_set n o q _ v ho hp]
      rw [foldOv_frame n ps (i + 1) i a _ (by omega), foldOv_frame n ps (i + 1) i a _ (by omega)]
      unfold setCell
      rw [List.set_set]
      by_cases hl : i < (foldOv n ps (i + 1) a).length
      · congr 2
        simp [List.getD_eq_getElem?_getD, List.getElem?_set_self hl]
      · rw [List.set_eq_of_length_le (by omega), List.set_eq_of_length_le (by omega)]
    | succ k =>
      simp only [List.set_cons_succ, foldOv]
      rw [ih k (i + 1) o _ p v (by simpa using h) ho hp]
      congr 1; omega

variable [Add α] [Div α] [LT α] [LE α] [DecidableLT α] [DecidableLE α]
  [OfNat α 0] [OfNat α 100] [OfNat α 200] [TruncInt α]

def orB : List Bool → Bool → Bool
  | [], b => b
  | x :: xs, b => orB xs (b || x)

theorem stagesClassic_eq_folds (n : Nat) (l : List (StageTok α)) : ∀ (i : Nat) (s : State α),
    stagesClassic n l i s =
      { s with
        endbbch := foldSet (l.map fun st => (TruncInt.ofInt (bbchClassic st.bbch) : α)) i s.endbbch,
        useBBCH := orB (l.map fun st => decide ((0 : α) < TruncInt.ofInt (bbchClassic st.bbch))) s.useBBCH,
        tsum := foldSet (l.map (·.tsum)) i s.tsum,
        bas := foldSet (l.map (·.bas)) i s.bas,
        vschwell := foldSet (l.map (·.vschwell)) i s.vschwell,
        dayl := foldSet (l.map (·.dayl)) i s.dayl,
        dlbas := foldSet (l.map (·.dlbas)) i s.dlbas,
        dryswell := foldSet (l.map (·.dryswell)) i s.dryswell,
        lukrit := foldSet (l.map (·.lukrit)) i s.lukrit,
        laifkt := foldSet (l.map (·.laifkt)) i s.laifkt,
        wgmax := foldSet (l.map (·.wgmax)) i s.wgmax,
        pro := foldOv n (l.map (·.pro)) i s.pro,
        dead := foldOv n (l.map (·.dead)) i s.dead,
        tendsum := sumFrom s.tendsum (l.map (·.tsum)),
        kc := foldSet (l.map (·.kc)) i s.kc } := by
  induction l with
  | nil => intro i s; rfl
  | cons st rest ih =>
    intro i s
    simp only [stagesClassic, ih, List.map_cons, foldSet, foldOv, sumFrom, orB, stageClassic]

theorem modifyAt_length {β : Type} (l : List β) (k : Nat) (f : β → β) : (modifyAt l k f).length = l.length := by
  unfold modifyAt; split <;> simp

theorem modifyAt_eq_set {β : Type} (l : List β) (k : Nat) (f : β → β) (hk : k < l.length) :
    modifyAt l k f = l.set k (f l[k]) := by
  simp only [modifyAt, List.getElem?_eq_getElem hk]

/-- a column the edit does not touch -/
theorem map_set_self {β γ : Type} (l : List β) (k : Nat) (g : β → γ) (hk : k < l.length) :
    (l.map g).set k (g l[k]) = l.map g := by
  rw [← List.map_set, List.set_getElem_self]

end

section
variable {α : Type} [Add α] [Div α] [Neg α] [LT α] [LE α] [DecidableLT α] [DecidableLE α]
  [OfNat α 0] [OfNat α 1] [OfNat α 10] [OfNat α 20] [OfNat α 24] [OfNat α 30] [OfNat α 40] [OfNat α 50]
  [OfNat α 100] [OfNat α 200] [OfNat α 10000] [TruncInt α]

theorem applyClassicCore_shape (t : Classic α) (rep : Bool) (s : State α) :
    (applyClassicCore t rep s).dauer = t.dauer ∧ (applyClassicCore t rep s).nrkom = t.nrkom ∧
    (applyClassicCore t rep s).nrentw = t.nrentw := by
  simp only [applyClassicCore, stagesClassic_eq_folds, reset_eq, and_self]

/-- for every record that differs from `t` in the stage table only, the reader runs the stage loop from the same state `s0` -/
theorem applyClassicCore_stages (t : Classic α) (rep : Bool) (s : State α) :
    ∃ s0 : State α, s0.tendsum = 0 ∧ s0.nrentw = t.nrentw ∧ s0.tsum = s.tsum ∧
      ∀ t' : Classic α, t' = { t with stages := t'.stages } →
        applyClassicCore t' rep s = stagesClassic t.nrkom (t'.stages.take t.nrentw) 0 s0 := by
  refine ⟨applyClassicCore { t with stages := [] } rep s, ?_, ?_, ?_, fun t' ht' => ?_⟩
  rotate_right
  · rw [ht']
    simp only [applyClassicCore, List.take_nil, stagesClassic, reset_eq]
  all_goals simp only [applyClassicCore, List.take_nil, stagesClassic, reset_eq]

end
end Hermes.CropOverride
