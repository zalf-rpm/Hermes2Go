/-
`setFieldCapacityWithGW` (hermes/init.go → `HermesModel/Generated/ImpsetFieldCapacityWithGW.lean`) raises the field capacity of the layers
at and below the groundwater table towards the pore volume.  Here the whole call as an equation (one cell written per iteration, from
values of the start); the bounds are `C15_source_setfc_bounds` (HermesProps/C15Source.lean).
-/
import HermesModel.Generated.ImpsetFieldCapacityWithGW
import HermesProofs.ImpLemmas
import Mathlib.Tactic.SplitIfs

namespace Hermes.Generated.Imp.setFieldCapacityWithGW
open Hermes.Imp

/-- what the theorems need of Go's `math.Mod(x, 1)` for the groundwater levels of a run (x = GRW + 1 ≥ 1): a value in [0,1] -/
def ModOK (m : MathFns ℚ) (s : St ℚ) : Prop := 0 ≤ m.mod (s.g_GRW + 1.0) 1.0 ∧ m.mod (s.g_GRW + 1.0) 1.0 ≤ 1

/-- the first layer the loop visits is a layer of the profile: `int(GRW + 1) ≥ 1` (groundwater level ≥ 0) -/
def FirstOK (m : MathFns ℚ) (s : St ℚ) : Prop := 1 ≤ m.toInt (s.g_GRW + 1.0)

/-- what layer `i` (0-based) gets: in the layer that contains the table a mixture of pore volume and field capacity, below it the
pore volume -/
def newW (m : MathFns ℚ) (s : St ℚ) (i : Int) : ℚ :=
  if i + 1 = m.toInt (s.g_GRW + 1.0) then
    (1.0 - m.mod (s.g_GRW + 1.0) 1.0) * rd s.g_PORGES i + rd s.g_W i * m.mod (s.g_GRW + 1.0) 1.0
  else rd s.g_PORGES i

theorem run_eq_fill (m : MathFns ℚ) (s : St ℚ) :
    run m s = { s with g_W := fill s.g_W (m.toInt (s.g_GRW + 1.0) - 1) (newW m s) (s.g_N + 1 - m.toInt (s.g_GRW + 1.0)).toNat } := by
  unfold run
  refine loopUp_noBrk_eq (loop1 m) _ _ _ rfl
    (fun k => { s with g_W := fill s.g_W (m.toInt (s.g_GRW + 1.0) - 1) (newW m s) k }) (fun k _ => ?_)
  have ei : m.toInt (s.g_GRW + 1.0) + (k : Int) - 1 = m.toInt (s.g_GRW + 1.0) - 1 + k := by omega
  -- an iteration reads only the layer it writes, which no earlier iteration has touched
  unfold loop1
  dsimp only
  rw [ei, rd_fill_next, fill]
  split_ifs with h
  · rw [newW, if_pos (by omega)]
  · rw [newW, if_neg (by omega)]

end Hermes.Generated.Imp.setFieldCapacityWithGW
