/-
Lemmas over ℚ about HermesModel/Mineral.lean: tillage mixing, the denitrification rate and the removal from one
layer, the moisture factors of `mineral` in the warm and in the frozen branch.
-/
import HermesProofs.Nitro
import HermesModel.Mineral

namespace Hermes.Mineral
open Hermes.Nitro

theorem setFirst_sum (v : ℚ) (l : List ℚ) (m : ℕ) (h : m ≤ l.length) :
    (setFirst m v l).sum = m * v + (l.drop m).sum := by
  fun_induction setFirst m v l with
  | case1 => simp at h; subst h; simp
  | case2 x xs => simp
  | case3 x xs k ih =>
    simp only [List.sum_cons, List.drop_succ_cons, ih (by simpa using h)]
    push_cast; ring

/-- `m` times the mean of the first `m` entries is their sum, also for `m = 0` -/
theorem mul_mean_take (l : List ℚ) (m : ℕ) : (m : ℚ) * (sumFrom 0 (l.take m) / (m : ℚ)) = (l.take m).sum := by
  rw [sumFrom_eq, zero_add]
  by_cases hm : m = 0
  · subst hm; simp
  · exact mul_div_cancel₀ _ (Nat.cast_ne_zero.mpr hm)

theorem mix_sum (l : List ℚ) (m : ℕ) (h : m ≤ l.length) :
    (setFirst m (sumFrom 0 (l.take m) / (m : ℚ)) l).sum = l.sum := by
  rw [setFirst_sum _ _ _ h, mul_mean_take, List.sum_take_add_sum_drop]

theorem mix_sum_clamp (l : List ℚ) (m : ℕ) (h : m ≤ l.length) :
    l.sum ≤ (setFirst m (clamp0 (sumFrom 0 (l.take m) / (m : ℚ))) l).sum := by
  rw [setFirst_sum _ _ _ h, ← List.sum_take_add_sum_drop l m, ← mul_mean_take]
  exact add_le_add_left (mul_le_mul_of_nonneg_left (clamp0_ge _) (Nat.cast_nonneg m)) _

/-- 4242 is the Vmax of `Denitmo` (denit.go:137), the larger of the two (`Denitr`: 1274, denit.go:41), and the
value the completed square below is written for -/
theorem denitRate_le (vmax n ftheta ftemp : ℚ) (hn : 0 < n) (hv0 : 0 ≤ vmax) (hv : vmax ≤ 4242)
    (h1 : 0 ≤ ftheta) (h2 : ftheta ≤ 1) (h3 : 0 ≤ ftemp) (h4 : ftemp ≤ 1) :
    denitRate vmax n ftheta ftemp ≤ n ∧ 0 ≤ denitRate vmax n ftheta ftemp := by
  unfold denitRate
  have hd : 0 < n * n + 74 := by positivity
  -- 4242·n ≤ 1000·n² + 74000: complete the square
  have hq : 0 ≤ n * (1000 * (n - 2121 / 1000) ^ 2 + 69501) :=
    mul_nonneg hn.le (by positivity)
  have hm : vmax * (n * n) / (n * n + 74) ≤ 1000 * n := by
    rw [div_le_iff₀ hd]
    linarith only [hq, hn, mul_le_mul_of_nonneg_right hv (mul_self_nonneg n)]
  have hm0 : 0 ≤ vmax * (n * n) / (n * n + 74) := div_nonneg (mul_nonneg hv0 (mul_self_nonneg n)) hd.le
  generalize vmax * (n * n) / (n * n + 74) = M at hm hm0
  rw [show M * ftheta * ftemp / 1000 = M * (ftheta * ftemp) / 1000 by ring]
  constructor
  · linarith only [(mul_le_of_le_one_right hm0 (mul_le_one₀ h2 h3 h4)).trans hm]
  · exact div_nonneg (mul_nonneg hm0 (mul_nonneg h1 h3)) (by norm_num)

theorem denitLayer_nonneg (c frac d : ℚ) (hc : 0 ≤ c) : 0 ≤ denitLayer c frac d := by
  unfold denitLayer
  split
  · exact clamp0_nonneg _
  · exact hc

/-- with a non-negative share the `if` of `denitLayer` decides nothing: share 0 removes nothing -/
theorem denitLayer_eq_max {c f : ℚ} (d : ℚ) (hc : 0 ≤ c) (hf : 0 ≤ f) : denitLayer c f d = max (c - d * f) 0 := by
  unfold denitLayer
  split
  · exact clamp0_eq_max _
  · rw [le_antisymm (not_lt.mp ‹_›) hf, mul_zero, sub_zero, max_eq_left hc]

theorem miredWarm_unit (wg wnor wred wmin porges : ℚ) :
    0 ≤ miredWarm wg wnor wred wmin porges ∧ miredWarm wg wnor wred wmin porges ≤ 1 := by
  unfold miredWarm
  generalize (if ¬ (wnor < wg) ∧ ¬ (wg < wred) then (1 : ℚ)
           else if wg < wred ∧ wmin < wg then (wg - wmin) / (wred - wmin)
           else if wnor < wg then (porges - wg) / (porges - wnor)
           else 0) = m
  simp only
  split_ifs <;> constructor <;> linarith

/-- The moisture factor of the frozen branch (nitro.go:665-678) is in [0,1] as soon as the wilting
point lies below the threshold WRED whenever the `WG < WRED` branch is taken (the branch has no
`WG > WMIN` test and no upper clamp). -/
theorem miredCold_unit (wg w wred wmin porges : ℚ) (h : wg < wred → wmin < wred) :
    0 ≤ miredCold wg w wred wmin porges ∧ miredCold wg w wred wmin porges ≤ 1 := by
  have key : ∀ m : ℚ, m ≤ 1 → 0 ≤ (if m < 0 then 0 else m) ∧ (if m < 0 then 0 else m) ≤ 1 := fun m hm =>
    max_def_lt m 0 ▸ ⟨le_max_right m 0, max_le hm zero_le_one⟩
  unfold miredCold
  refine key _ ?_
  split_ifs with h1 h2 h3 h4
  · exact le_refl _
  · rw [div_le_one (by linarith [h h2])]; linarith
  · rw [div_le_one (by linarith [h3.1])]; linarith [h3.2]
  · exact zero_le_one
  · exact le_refl _

theorem drainSum_zero (dd : ℕ) : ∀ (l : List (ℚ × ℚ)) (z : ℕ) (qTop : ℚ), drainSum 0 dd z qTop l = 0 :=
  fun l z qTop => by rw [drainSum_eq, zero_mul]

end Hermes.Mineral
