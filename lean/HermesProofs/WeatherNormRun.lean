/-
The normalised value of a cell as a function `normPure` of the raw cell and its two neighbour cells: its entries over ℚ,
and the lines of a year file after `WetterK`'s two passes (`normVals`) as `normPure` of the lines read.
-/
import HermesProofs.WeatherNorm
import HermesProofs.WeatherRun
import HermesProofs.RatInst
set_option linter.unusedSectionVars false
namespace Hermes.Weather
open Hermes.Calendar Hermes.DayLoop

section
variable {α : Type} [Add α] [Mul α] [Div α] [LT α] [DecidableLT α] [BEq α]
  [OfNat α 0] [OfNat α 2] [OfNat α 10] [OfScientific α]

theorem normPure_own_value (nv : α) (corr : List α) (leap : Bool) (i : Nat) (c : Day α) (pn : Option (Day α × Day α)) :
    (normPure nv corr leap i c pn).reg = regenT (fillZero nv c.reg) (corr.getD (corrMonth (corrDoy leap (i + 1))) 0) ∧
    (normPure nv corr leap i c pn).radi = parT (fillZero nv c.radi) ∧
    (normPure nv corr leap i c pn).win = windFloor c.win := by
  cases pn <;> exact ⟨rfl, rfl, rfl⟩

end

section
variable {α : Type} [Add α] [Div α] [BEq α] [LawfulBEq α] [OfNat α 0] [OfNat α 2]

theorem fillMean_of_ne {nv v : α} (p n : α) (h : v ≠ nv) : fillMean nv v p n = v := by simp [fillMean, h]
theorem fillZero_of_ne {nv v : α} (h : v ≠ nv) : fillZero nv v = v := by simp [fillZero, h]
theorem fillMean_of_eq {nv v p n : α} (h : v = nv) (hp : p ≠ nv) (hn : n ≠ nv) : fillMean nv v p n = (p + n) / 2 := by
  simp [fillMean, h, hp, hn]

end

theorem normPure_present (nv : ℚ) (corr : List ℚ) (leap : Bool) (i : Nat) (c : Day ℚ) (pn : Option (Day ℚ × Day ℚ)) :
    (c.tmp ≠ nv → (normPure nv corr leap i c pn).tmp = c.tmp) ∧
    (c.verd ≠ nv → (normPure nv corr leap i c pn).verd = c.verd) ∧
    (c.sund ≠ nv → (normPure nv corr leap i c pn).sund = c.sund) := by
  -- the second pass leaves these entries as the first pass made them
  cases pn with
  | none =>
    exact ⟨fillZero_of_ne, fillZero_of_ne,
      fun h => show fillZero nv (fillZero nv c.sund) = _ by rw [fillZero_of_ne h, fillZero_of_ne h]⟩
  | some x =>
    exact ⟨fillMean_of_ne _ _, fillMean_of_ne _ _,
      fun h => show fillZero nv (fillMean nv c.sund x.1.sund x.2.sund) = _ by rw [fillMean_of_ne _ _ h, fillZero_of_ne h]⟩

/-- sunshine duration goes through `fillZero` once more after the mean: hence its extra hypothesis that the mean is not
the missing-value code -/
theorem normPure_mean (nv : ℚ) (corr : List ℚ) (leap : Bool) (i : Nat) (c p n : Day ℚ) :
    (c.tmp = nv → p.tmp ≠ nv → n.tmp ≠ nv → (normPure nv corr leap i c (some (p, n))).tmp = (p.tmp + n.tmp) / 2) ∧
    (c.verd = nv → p.verd ≠ nv → n.verd ≠ nv → (normPure nv corr leap i c (some (p, n))).verd = (p.verd + n.verd) / 2) ∧
    (c.sund = nv → p.sund ≠ nv → n.sund ≠ nv → (p.sund + n.sund) / 2 ≠ nv →
      (normPure nv corr leap i c (some (p, n))).sund = (p.sund + n.sund) / 2) := by
  exact ⟨fillMean_of_eq, fillMean_of_eq,
    fun h hp hn hm => show fillZero nv (fillMean nv c.sund p.sund n.sund) = _ by rw [fillMean_of_eq h hp hn, fillZero_of_ne hm]⟩

/-- the payloads of a year file after `WetterK`'s two passes -/
def normVals (nv : ℚ) (corr : List ℚ) (year : Nat) (vs : List (Day ℚ)) : List (Day ℚ) :=
  (normLines nv corr year (numberFrom 1 vs)).map (·.2)

theorem normLines_numberFrom (nv : ℚ) (corr : List ℚ) (year : Nat) (vs : List (Day ℚ)) :
    normLines nv corr year (numberFrom 1 vs) = numberFrom 1 (normVals nv corr year vs) := by
  apply List.ext_getElem <;> simp [normVals, normLines, numberFrom_eq_mapIdx]

theorem normVals_length (nv : ℚ) (corr : List ℚ) (year : Nat) (vs : List (Day ℚ)) :
    (normVals nv corr year vs).length = vs.length := by
  simp [normVals, normLines, numberFrom_eq_mapIdx]

theorem normVals_getElem (nv : ℚ) (corr : List ℚ) (year : Nat) (vs : List (Day ℚ))
    (hn : vs.length ≤ daysInYear year) (k : Nat) (hk : k < vs.length) :
    ∃ pn, (normVals nv corr year vs)[k]'(by rw [normVals_length]; exact hk) =
      normPure nv corr (daysInYear year == 366) k vs[k] pn := by
  obtain ⟨s1, e, b, c, d⟩ := readYearFile_aligned year ({} : Store (Day ℚ)) vs (List.ne_nil_of_length_pos (by omega)) hn
  refine ⟨neighbours ((List.range 1).map s1.maxAt) 1 (filled nv 1 s1) s1 0 k, ?_⟩
  have e1 : 1 + k - 1 = k := by omega
  simp only [normVals, normLines, e]
  simp only [List.getElem_map, numberFrom_eq_mapIdx vs, List.getElem_mapIdx, e1]
  rw [cellAt_of_get (normalise_get nv corr 1 s1 0 k (by omega) (by rw [c]; exact hk)), cellAt_of_get (d k hk), b]

theorem covered_normLines (nv : ℚ) (corr : List ℚ) (files : Nat → Option (List (Nat × Day ℚ))) (vals : Nat → List (Day ℚ))
    {b n : Nat} (h : Covered (YearFile files vals) b n) :
    Covered (YearFile (fun y => (files y).map (normLines nv corr y)) (fun y => normVals nv corr y (vals y))) b n := by
  intro k hk j doy hd
  obtain ⟨hf, hl, h1, hz⟩ := h k hk j doy hd
  refine ⟨?_, ?_, h1, ?_⟩
  · simp only [hf, Option.map_some, normLines_numberFrom]
  · rw [normVals_length]; exact hl
  · rw [normVals_length]; exact hz

end Hermes.Weather
