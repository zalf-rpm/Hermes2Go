/-
Facts about lists that are not in core Lean and that more than one model needs.  Core Lean only.
-/
namespace Hermes

theorem getD_eq_headD_drop (ds : List Nat) (k : Nat) : ds.getD k 0 = (ds.drop k).headD 0 := by
  rw [List.getD_eq_getElem?_getD, List.headD_eq_head?_getD, List.head?_drop]

theorem getD_map_range (f : Nat → Nat) (n y : Nat) (h : y < n) : ((List.range n).map f).getD y 0 = f y := by
  simp [List.getD_eq_getElem?_getD, List.getElem?_map, List.getElem?_range h]

/-- a recursion that applies `g` to the head with a running index is `List.mapIdx` -/
theorem eq_mapIdx_of_step {β γ : Type} (F : Nat → List β → List γ) (g : Nat → β → γ) (h0 : ∀ l, F l [] = [])
    (h1 : ∀ l x xs, F l (x :: xs) = g l x :: F (l + 1) xs) :
    ∀ ls l, F l ls = ls.mapIdx (fun i => g (l + i)) := by
  intro ls
  induction ls with
  | nil => intro l; rw [h0]; rfl
  | cons x xs ih =>
    intro l
    rw [h1, ih, List.mapIdx_cons]
    simp only [Nat.add_zero, Nat.add_assoc, Nat.add_comm 1]

theorem takeWhile_congr {α : Type} {p q : α → Bool} : ∀ {l : List α}, (∀ x ∈ l, p x = q x) → l.takeWhile p = l.takeWhile q
  | [], _ => rfl
  | x :: xs, h => by
    rw [List.takeWhile_cons, List.takeWhile_cons, h x (List.mem_cons_self ..),
      takeWhile_congr fun y hy => h y (List.mem_cons_of_mem _ hy)]

/-- a strictly increasing list holds a value at most once -/
theorem filter_unique {l : List Nat} (hs : l.Pairwise (· < ·)) (p : Nat → Bool) (a : Nat)
    (hp : ∀ z ∈ l, p z = true ↔ z = a) : l.filter p = if a ∈ l then [a] else [] := by
  induction l with
  | nil => rfl
  | cons x xs ih =>
    obtain ⟨hx, hs'⟩ := List.pairwise_cons.mp hs
    have ih := ih hs' fun z hz => hp z (List.mem_cons_of_mem _ hz)
    by_cases hxa : x = a
    · -- behind `a` everything is larger
      have hn : a ∉ xs := fun h => Nat.lt_irrefl a (hxa ▸ hx a h)
      rw [List.filter_cons_of_pos ((hp x (List.mem_cons_self ..)).mpr hxa), ih, if_neg hn, hxa,
        if_pos (List.mem_cons_self ..)]
    · rw [List.filter_cons_of_neg (fun h => hxa ((hp x (List.mem_cons_self ..)).mp h)), ih]
      simp only [List.mem_cons, Ne.symm hxa, false_or]

end Hermes
