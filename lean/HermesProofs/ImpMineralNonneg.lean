/-
`mineral` (hermes/nitro.go → `HermesModel/Generated/Impmineral.lean`): the organic pools stay ≥ 0 and the mineralised-amount counters
only grow.  Per layer the decay is `D = clamp₀(k · pool · MIRED)` with `MIRED` clamped to [0,1]; with a rate constant `k ∈ [0,1]`
(a named hypothesis about `math.Exp`: `k = A·exp(E/(T+273.16))`, ≤ 1 below about 60 °C) `0 ≤ D ≤ pool`.  That the pool loses and the
counter gains `D` is `loop1_moves`; here the bound on `D`: the walk goes through `U`, `M0`, `M1` (HermesProofs/ImpMineralMoisture.lean)
to `Bnd`, which holds already before the clamp of `D` and which the writes to pool and counter do not touch; the frozen branch stays in `U`.
-/
import HermesProofs.ImpMineralPools
import HermesProofs.ImpMineralMoisture
import HermesProofs.PlantArith

namespace Hermes.Generated.Imp.mineral
open Hermes.Imp

/-- `0 ≤ D ≤ pool` in the layer -/
def Bnd (v0 : PoolView) (zi : Int) (v : PoolView) : Prop := 0 ≤ rd v.dec zi ∧ rd v.dec zi ≤ rd v0.pool zi

/-- end of the body: warm branch bounded, frozen branch untouched -/
def BFin (v0 : PoolView) (zi : Int) (v : PoolView) : Prop := Bnd v0 zi v ∨ v = v0

section
variable (view : St ℚ → PoolView) {v0 v : PoolView} {s t a b : St ℚ} {zi : Int}

/-- the decay `k · pool · MIRED` of the layer is written -/
theorem pd_step (h : M1 view s zi t) (k : ℚ) (hk0 : 0 ≤ k) (hk1 : k ≤ 1) (hN : 0 ≤ rd (view s).pool zi) :
    Bnd (view s) zi { view t with dec := wr (view t).dec zi (k * rd (view t).pool zi * rd t.v_MIRED zi) } := by
  obtain ⟨hv, m0, m1⟩ := h
  rw [show view t = view s from hv]
  refine rd_wr_self_of (P := fun d => 0 ≤ d ∧ d ≤ rd (view s).pool zi) _ _ ?_ ⟨le_refl _, hN⟩
  rw [mul_right_comm]
  exact frac_between (mul_nonneg hk0 m0) (mul_le_one₀ hk1 m0 m1) hN

/-- the then-branch of the clamp of `D` (never taken, but it is a state of the walk) -/
theorem pd_zero (h : Bnd v0 zi v) : Bnd v0 zi { v with dec := wr v.dec zi 0.0 } :=
  rd_wr_self_of (P := fun d => 0 ≤ d ∧ d ≤ rd v0.pool zi) _ _ (by rw [lit0]; exact ⟨le_refl _, h.1.trans h.2⟩)
    ⟨le_refl _, h.1.trans h.2⟩

theorem bfin_ite {c : Prop} {d : Decidable c} (ha : Bnd (view s) zi (view a)) (hb : U view s b) :
    BFin (view s) zi (view (if c then a else b)) := by
  split_ifs
  · exact Or.inl ha
  · exact Or.inr hb

/-- over the iterations: besides `Cons`, every layer of the pool is ≥ 0 and no counter entry is below its start value -/
structure Inv (v0 v : PoolView) : Prop extends Cons v0 v where
  nonneg : ∀ j : Int, 0 ≤ rd v.pool j
  mono : ∀ j : Int, rd v0.ctr j ≤ rd v.ctr j

theorem inv_step {v' : PoolView} (h : Inv v0 v) (ha : AFin v zi v') (hb : BFin v zi v') (h0 : 0 ≤ zi)
    (hi : zi.toNat < v0.pool.length ∧ zi.toNat < v0.ctr.length) : Inv v0 v' := by
  have c := cons_step h.toCons ha h0 hi
  rcases hb with ⟨d0, d1⟩ | e
  · rcases ha with ⟨e1, e2⟩ | ⟨e1, e2⟩
    · refine ⟨c, fun j => ?_, fun j => ?_⟩
      · rw [e1, rd_wr _ _ _ _ h0 (by rw [h.pool]; exact hi.1)]
        split_ifs
        · exact sub_nonneg.mpr d1
        · exact h.nonneg j
      · rw [e2, rd_wr _ _ _ _ h0 (by rw [h.ctr]; exact hi.2)]
        split_ifs with hj
        · exact hj ▸ (h.mono zi).trans (le_add_of_nonneg_right d0)
        · exact h.mono j
    · exact ⟨c, e1 ▸ h.nonneg, e2 ▸ h.mono⟩
  · rw [e]
    exact h

end

/-- the rate constant of a pool in layer `z`: `A · exp(E / (T + 273.16))`, `T` the mean of the temperatures at the layer's borders -/
def rate (m : MathFns ℚ) (A E : ℚ) (td : List ℚ) (z : Int) : ℚ := A * m.exp (E / ((rd td z + rd td (z - 1)) / 2.0 + 273.16))

/-- the pools with the constants `A`, `E` of their rate laws -/
def IsPool (view : St ℚ → PoolView) (A E : ℚ) : Prop :=
  (view = viewA ∧ A = 4000000000.0 ∧ E = -8400.0) ∨ (view = viewF ∧ A = 5600000000000.0 ∧ E = -9800.0)

/-- one iteration bounds the decay of the layer.  One text, run per pool with `view` and the rate constant `k` let-bound to the
concrete ones (see `loop1_moves`). -/
theorem loop1_bound (m : MathFns ℚ) (view : St ℚ → PoolView) (A E : ℚ) (hv : IsPool view A E)
    (z : Int) (s : St ℚ) (hN : 0 ≤ rd (view s).pool (z - 1)) (hk : 0 ≤ rate m A E s.g_TD z ∧ rate m A E s.g_TD z ≤ 1) :
    BFin (view s) (z - 1) (view (loop1 m z s)) := by
  rcases hv with ⟨rfl, rfl, rfl⟩ | ⟨rfl, rfl, rfl⟩
  all_goals
    unfold loop1
    -- the names go to the `let`s of the body in their order; `hk` speaks of `rate …`, which unfolds to `kt0` (`kt1`)
    extract_lets zi tempbo ktd kt0 kt1
  on_goal 1 => let view := viewA; let k := kt0
  on_goal 2 => let view := viewF; let k := kt1
  all_goals
    have hmir : IgnoresMired view := fun _ _ _ => rfl
    have hk0 : 0 ≤ k := hk.1
    have hk1 : k ≤ 1 := hk.2
    have hu : U view s s := rfl
    walk_states [
      M0 view s zi by apply m0_clamp hmir; exact hprev,
      U view s by
        first
        | apply hu                                    -- the start
        | (apply u_join; assumption; exact hprev),    -- the frozen top layer joins the other frozen layers
      M1 view s zi by apply m1_clamp hmir; exact hprev,
      fun t => Bnd (view s) zi (view t) by
        first
        | (apply pd_step view ?_ k hk0 hk1 hN; exact hprev)
        | (apply pd_zero (v := view _); exact hprev),
      fun t => BFin (view s) zi (view t) by apply bfin_ite view; assumption; exact hprev]
    assumption

theorem loop_nonneg (m : MathFns ℚ) (view : St ℚ → PoolView) (A E : ℚ) (hv : IsPool view A E)
    (s : St ℚ) (num : Int) (hp : num.toNat ≤ (view s).pool.length) (hc : num.toNat ≤ (view s).ctr.length)
    (hk : ∀ i : Nat, i < num.toNat → 0 ≤ rate m A E s.g_TD (1 + (i : Int)) ∧ rate m A E s.g_TD (1 + (i : Int)) ≤ 1)
    (hN : ∀ j : Int, 0 ≤ rd (view s).pool j) :
    Inv (view s) (view (loopUp noBrk 1 (num + 1) (loop1 m) s)) :=
  loop_ind m (fun t => Inv (view s) (view t)) s num ⟨⟨rfl, rfl, fun _ => rfl⟩, hN, fun _ => le_refl _⟩
    (fun i hi t td iv =>
      inv_step iv (loop1_moves m view (hv.imp And.left And.left) (1 + i) t)
        (loop1_bound m view A E hv (1 + i) t (iv.nonneg _) (by rw [td]; exact hk i hi)) (by omega) ⟨by omega, by omega⟩)

end Hermes.Generated.Imp.mineral
