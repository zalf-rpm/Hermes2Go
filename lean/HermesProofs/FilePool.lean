/-
The session file pool (HermesModel/Dispatch.lean, namespace `Hermes.FilePool`): `Get` returns the file content
and keeps the cache invariant.  Core Lean only.
-/
import HermesModel.Dispatch

namespace Hermes.FilePool

variable {Path Content : Type} [DecidableEq Path]

theorem get_spec (fs : Path → Content) (pool : Pool Path Content) (p : Path) (h : Inv fs pool) :
    (get fs pool p).2 = fs p ∧ Inv fs (get fs pool p).1 := by
  cases hl : lookup p (pool.list.getD []) with
  | some c =>
    simp only [get, hl]
    exact ⟨h p c hl, fun q d hq => h q d (by simpa using hq)⟩
  | none =>
    simp only [get, hl]
    refine ⟨trivial, ?_⟩
    intro q d hq
    simp only [Option.getD_some, lookup] at hq
    by_cases hqp : q = p
    · subst hqp; simp at hq; exact hq.symm
    · simp only [hqp, if_false] at hq
      exact h q d hq

theorem inv_empty (fs : Path → Content) : Inv fs (⟨none⟩ : Pool Path Content) := by
  intro p c h; simp [lookup] at h

theorem inv_close (fs : Path → Content) (pool : Pool Path Content) : Inv fs (close pool) :=
  inv_empty fs

omit [DecidableEq Path] in
theorem callsOf_tag (r : Nat) (l : List Path) : callsOf r (l.map fun p => (r, p)) = l := by
  simp [callsOf, List.filter_map, Function.comp_def]

omit [DecidableEq Path] in
theorem view_map (fs : Path → Content) (r : Nat) (calls : List (Nat × Path)) :
    view r (calls.map (fun x => (x.1, fs x.2))) = (callsOf r calls).map fs := by
  simp [view, callsOf, List.filter_map, Function.comp_def]

end Hermes.FilePool
