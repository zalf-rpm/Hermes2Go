/-
Which statements of `nmove` (hermes/nitro.go → `HermesModel/Generated/Impnmove.lean`, regenerated on every run) touch the crop-N
bookkeeping, as three functions of the state:
* `ctl`: what no statement writes;
* `kept`: `ctl` and `PESUM`, `AUFNASUM`, `PE`: written by the uptake block of the first loop (first sub-step of the day only) and by
  the crediting statement, by nothing else;
* `diff`: `ctl` and `PESUM − AUFNASUM`: the uptake block adds the same clamped uptake to both counters, so nothing before the
  crediting statement changes it, in any sub-step.
The loop bodies are walked (`walk_states`): splitting their sequential `if`s into cases is slow to check.
-/
import HermesModel.Generated.Impnmove
import HermesProofs.ImpLemmas
import HermesProofs.WalkStates

namespace Hermes.Generated.Imp.nmove
open Hermes.Imp

/-- what no statement of `nmove` writes: what the crediting statement reads, the sub-step number, the number of layers, the length of
the mineral-N array (element writes keep it) -/
structure Ctl where
  schnorr : ℚ
  saat : List Int
  ernte2 : List Int
  akf : Int
  zeit : Int
  subd : Int
  n : Int
  c1len : Nat

abbrev ctl (s : St ℚ) : Ctl :=
  ⟨s.g_SCHNORR, s.g_SAAT, s.g_ERNTE2, s.g_AKF_Index, s.p_zeit, s.p_subd, s.g_N, s.g_C1.length⟩

structure Kept where
  pesum : ℚ
  aufnasum : ℚ
  pe : List ℚ
  ctl : Ctl

abbrev kept (s : St ℚ) : Kept := ⟨s.g_PESUM, s.g_AUFNASUM, s.g_PE, ctl s⟩

structure Diff where
  d : ℚ
  ctl : Ctl

abbrev diff (s : St ℚ) : Diff := ⟨s.g_PESUM - s.g_AUFNASUM, ctl s⟩

variable (m : MathFns ℚ)

section
variable {s t : St ℚ}

theorem diff_of_kept (h : kept t = kept s) : diff t = diff s := congrArg (fun k : Kept => (⟨k.pesum - k.aufnasum, k.ctl⟩ : Diff)) h

theorem diff_credit (v : ℚ) (h : diff t = diff s) :
    diff { t with g_PESUM := t.g_PESUM + v, g_AUFNASUM := t.g_AUFNASUM + v } = diff s :=
  (congrArg (Diff.mk · (ctl t)) (add_sub_add_right_eq_sub _ _ _)).trans h

theorem kept_c1 (t : St ℚ) (z : Int) (v : ℚ) : kept { t with g_C1 := wr t.g_C1 z v } = kept t := by
  unfold kept ctl
  rw [length_wr]

end

/-- The uptake block adds the same clamped uptake to both counters.  Between the two additions the walk carries the fact about
the state the second addition is going to produce. -/
theorem loop1_diff (z : Int) (s : St ℚ) : diff (loop1 m z s) = diff s := by
  unfold loop1
  extract_lets s1
  have h0 : diff s = diff s := rfl
  walk_states [
    fun t => diff t = diff s by
      first
      | assumption                                                    -- the start
      | exact hprev                                                   -- the second addition: what the second fact foretold
      | (apply (diff_of_kept (kept_c1 _ _ _)).trans; exact hprev),    -- an element write to `C1`
    fun t : St ℚ => diff { t with g_AUFNASUM := t.g_AUFNASUM + rd t.g_PE z } = diff s by apply diff_credit; exact hprev]
  assumption

/-- not the first sub-step of the day: the uptake block is skipped -/
theorem loop1_kept (z : Int) (s : St ℚ) (h : s.p_subd ≠ 1) : kept (loop1 m z s) = kept s := by
  unfold loop1
  extract_lets s1
  have hs : ¬ s1.p_subd = 1 := h
  have h0 : kept s = kept s := rfl
  walk_states [fun t => kept t = kept s by assumption]
  assumption

theorem loop2_kept (z : Int) (s : St ℚ) : kept (loop2 m z s) = kept s := by
  unfold loop2
  extract_lets
  have h0 : kept s = kept s := rfl
  walk_states [fun t => kept t = kept s by assumption]
  assumption

theorem loop3_kept (z : Int) (s : St ℚ) : kept (loop3 m z s) = kept s := by
  unfold loop3
  extract_lets
  have h0 : kept s = kept s := rfl
  walk_states [fun t => kept t = kept s by assumption]
  assumption

/-- loops 4 and 5 write elements of `C1`: the `kept_c1` alternative of the rule -/
theorem loop4_kept (z : Int) (s : St ℚ) : kept (loop4 m z s) = kept s := by
  unfold loop4
  extract_lets
  have h0 : kept s = kept s := rfl
  walk_states [fun t => kept t = kept s by first | assumption | (apply (kept_c1 _ _ _).trans; exact hprev)]
  assumption

theorem loop5_kept (z : Int) (s : St ℚ) : kept (loop5 m z s) = kept s := by
  unfold loop5
  extract_lets
  have h0 : kept s = kept s := rfl
  walk_states [fun t => kept t = kept s by first | assumption | (apply (kept_c1 _ _ _).trans; exact hprev)]
  assumption

theorem top9_kept (s : St ℚ) : kept (top9 m s) = kept s := by
  unfold top9
  extract_lets
  have h0 : kept s = kept s := rfl
  walk_states [fun t => kept t = kept s by assumption]
  assumption

theorem top2_diff (s : St ℚ) : diff (top2 m s) = diff s :=
  loopUp_frame diff (fun _ => True) _ _ (fun i t _ => loop1_diff m i t) _ _ s trivial

theorem top2_kept (s : St ℚ) (h : s.p_subd ≠ 1) : kept (top2 m s) = kept s :=
  loopUp_frame kept (fun k => k.ctl.subd ≠ 1) _ _ (loop1_kept m) _ _ s h

theorem top4_kept (s : St ℚ) : kept (top4 m s) = kept s :=
  loopUp_frame kept (fun _ => True) _ _ (fun i t _ => loop2_kept m i t) _ _ s trivial

theorem top5_kept (s : St ℚ) : kept (top5 m s) = kept s :=
  loopUp_frame kept (fun _ => True) _ _ (fun i t _ => loop3_kept m i t) _ _ s trivial

theorem top8_kept (s : St ℚ) : kept (top8 m s) = kept s :=
  loopUp_frame kept (fun _ => True) _ _ (fun i t _ => loop4_kept m i t) _ _ s trivial

theorem top10_kept (s : St ℚ) : kept (top10 m s) = kept s :=
  loopUp_frame kept (fun _ => True) _ _ (fun i t _ => loop5_kept m i t) _ _ s trivial

/-- statements 1, 3, 6 and 7 are single assignments to other fields -/
theorem top1_kept (s : St ℚ) : kept (top1 m s) = kept s := rfl

theorem top3_kept (s : St ℚ) : kept (top3 m s) = kept s := rfl

theorem top6_kept (s : St ℚ) : kept (top6 m s) = kept s := rfl

theorem top7_kept (s : St ℚ) : kept (top7 m s) = kept s := rfl

theorem after2_kept (t : St ℚ) :
    kept (top9 m (top8 m (top7 m (top6 m (top5 m (top4 m (top3 m t))))))) = kept t :=
  (top9_kept m _).trans <| (top8_kept m _).trans <| (top7_kept m _).trans <| (top6_kept m _).trans <|
    (top5_kept m _).trans <| (top4_kept m _).trans <| top3_kept m t

/-- statements 1–9: everything before the clamping loop -/
def upto9 (s : St ℚ) : St ℚ := top9 m (top8 m (top7 m (top6 m (top5 m (top4 m (top3 m (top2 m (top1 m s))))))))

/-- statements 1–10: everything before the crediting statement -/
def upto10 (s : St ℚ) : St ℚ := top10 m (upto9 m s)

theorem run_eq (s : St ℚ) : run m s = top11 m (upto10 m s) := rfl

theorem upto9_diff (s : St ℚ) : diff (upto9 m s) = diff s :=
  (diff_of_kept (after2_kept m _)).trans <| (top2_diff m _).trans (diff_of_kept (top1_kept m s))

theorem upto10_diff (s : St ℚ) : diff (upto10 m s) = diff s :=
  (diff_of_kept (top10_kept m _)).trans (upto9_diff m s)

theorem upto10_kept (s : St ℚ) (h : s.p_subd ≠ 1) : kept (upto10 m s) = kept s :=
  (top10_kept m _).trans <| (after2_kept m _).trans <| (top2_kept m (top1 m s) h).trans (top1_kept m s)

/-- a sown crop stands on the field: the sowing day of the current rotation entry is set (automatic sowing leaves it 0
until the crop is sown) and the day lies between sowing and the latest harvest date -/
def cropStands (s : St ℚ) : Prop :=
  0 < rd s.g_SAAT s.g_AKF_Index ∧ rd s.g_SAAT s.g_AKF_Index ≤ s.p_zeit ∧ s.p_zeit ≤ rd s.g_ERNTE2 s.g_AKF_Index

instance (s : St ℚ) : Decidable (cropStands s) := by unfold cropStands; infer_instance

/-- the crediting statement (the last statement of `nmove`, nitro.go:859-861) with its guard reassociated -/
theorem credit_statement (t : St ℚ) :
    top11 m t = if t.p_subd = 1 ∧ cropStands t then { t with g_PESUM := t.g_PESUM + t.g_SCHNORR } else t := by
  unfold top11 cropStands
  exact if_congr (by simp only [and_assoc]) rfl rfl

theorem top11_rest (t : St ℚ) : (top11 m t).g_PE = t.g_PE ∧ (top11 m t).g_C1 = t.g_C1 := by
  simp only [top11, apply_ite St.g_PE, apply_ite St.g_C1, ite_self, and_self]

/-- The crediting statement as a function of `diff`: its guard and the amount it adds are control data. -/
def credited (d : Diff) : Diff :=
  ⟨d.d + if d.ctl.subd = 1 ∧ 0 < rd d.ctl.saat d.ctl.akf ∧ rd d.ctl.saat d.ctl.akf ≤ d.ctl.zeit ∧ d.ctl.zeit ≤ rd d.ctl.ernte2 d.ctl.akf
    then d.ctl.schnorr else 0, d.ctl⟩

theorem top11_diff (t : St ℚ) : diff (top11 m t) = credited (diff t) := by
  rw [credit_statement]
  show _ = Diff.mk (t.g_PESUM - t.g_AUFNASUM + if t.p_subd = 1 ∧ cropStands t then t.g_SCHNORR else 0) (ctl t)
  split
  · exact congrArg (Diff.mk · (ctl t)) (add_sub_right_comm _ _ _)
  · exact congrArg (Diff.mk · (ctl t)) (add_zero _).symm

theorem run_diff (s : St ℚ) :
    (run m s).g_PESUM - (run m s).g_AUFNASUM
      = s.g_PESUM - s.g_AUFNASUM + (if s.p_subd = 1 ∧ cropStands s then s.g_SCHNORR else 0) :=
  congrArg Diff.d ((top11_diff m _).trans (congrArg credited (upto10_diff m s)))

theorem run_kept (s : St ℚ) (h : s.p_subd ≠ 1) : kept (run m s) = kept s := by
  have hl := upto10_kept m s h
  have hs : ¬ ((upto10 m s).p_subd = 1 ∧ cropStands (upto10 m s)) := fun x => h ((congrArg (·.ctl.subd) hl).symm.trans x.1)
  rw [run_eq, credit_statement, if_neg hs]
  exact hl

/-- the later sub-steps of a day: each call starts from whatever state the day loop hands it (`t`), with the counters
and the uptake array as the previous call left them -/
def laterCalls : St ℚ → List (St ℚ) → St ℚ
  | o, [] => o
  | o, t :: ts => laterCalls (run m { t with g_PESUM := o.g_PESUM, g_AUFNASUM := o.g_AUFNASUM, g_PE := o.g_PE }) ts

theorem laterCalls_counters (o : St ℚ) (ts : List (St ℚ)) (h : ∀ t ∈ ts, t.p_subd ≠ 1) :
    (laterCalls m o ts).g_PESUM = o.g_PESUM ∧ (laterCalls m o ts).g_AUFNASUM = o.g_AUFNASUM := by
  induction ts generalizing o with
  | nil => exact ⟨rfl, rfl⟩
  | cons t ts ih =>
    obtain ⟨ht, hts⟩ := List.forall_mem_cons.mp h
    have hk := run_kept m { t with g_PESUM := o.g_PESUM, g_AUFNASUM := o.g_AUFNASUM, g_PE := o.g_PE } ht
    exact ⟨(ih _ hts).1.trans (congrArg Kept.pesum hk), (ih _ hts).2.trans (congrArg Kept.aufnasum hk)⟩

end Hermes.Generated.Imp.nmove
