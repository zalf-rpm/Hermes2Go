/-
PTF4 (Rawls et al. 2003, input.go PTF4; model `SoilParams.ptf4`) over its whole continuous domain:
C_org ∈ [0, 6] %, clay ∈ [5, 90] %, sand ∈ [5, 85] %, clay + sand ≤ 95 % (silt ≥ 5 %).

`0 < WP`, `WP < FC`, `FC < 1` are three polynomial inequalities of degree ≤ 5 in three variables with a relative margin of
about 3 % (minimum FC − WP = 0.0087 at clay 10, sand 85, C_org 0, on the boundary of the texture triangle).  Each is proved
by a verified interval-subdivision certificate:

* a target is a polynomial `k.poly` given by its coefficients (`Coef`), and `k.poly x = k.poly m + slope k m x` for every
  centre `m` and every `k` (`slope_eq`, by `ring`): a centred form, whose enclosure tightens quadratically with the box.  The
  value at the centre is evaluated in ℚ, only `slope` over intervals.  The coefficients of the three targets are combined
  from those of the model's two polynomials (`fcK`, `wpK`, `ptf4Mix`) and tied to `ptf4` by `ring` (`ptf4Mix_poly`);
* `slope` is polymorphic: instantiated at `Interval.E` it is its syntax tree, whose interval evaluation encloses its value
  over a box (`E.ieval_mem`);
* the subdivisions are data: `Interval.verifyCut` evaluates the enclosure on their leaves, the kernel evaluates its run and
  `verifyCut_sound` lifts it to all points.
-/
import HermesProofs.Interval
import HermesProofs.Decimals
import HermesModel.SoilParams
import Mathlib.Tactic.Ring
import Mathlib.Tactic.Linarith

namespace Hermes.SoilParams
open Hermes.Interval

section
variable {α : Type} [Add α] [Sub α] [Mul α] [OfScientific α]

/-- the scaled variables of `ptf4` (input.go: ix, yps, zet), written without a negative literal -/
def ptf4IxC (c : α) : α := 0.430183 * c - 0.837531
def ptf4YpsC (t : α) : α := 0.0661969 * t - 1.40744
def ptf4ZetC (s : α) : α := 0.0393284 * s - 1.51866

end

/-- coefficients of a polynomial in three variables, by monomial: those of degree ≤ 3 and `x·z⁴` (the wilting point of
`ptf4` has it, see `ptf4WpPoly`) -/
structure Coef where
  (c x y z xx xy xz yy yz zz xxx xxy xxz xyy xyz xzz yyy yyz yzz zzz xzzzz : ℚ := 0)

def Coef.poly (k : Coef) (x y z : ℚ) : ℚ :=
  k.c + k.x * x + k.y * y + k.z * z + k.xx * x ^ 2 + k.xy * x * y + k.xz * x * z + k.yy * y ^ 2 + k.yz * y * z + k.zz * z ^ 2
  + k.xxx * x ^ 3 + k.xxy * x ^ 2 * y + k.xxz * x ^ 2 * z + k.xyy * x * y ^ 2 + k.xyz * x * y * z + k.xzz * x * z ^ 2
  + k.yyy * y ^ 3 + k.yyz * y ^ 2 * z + k.yzz * y * z ^ 2 + k.zzz * z ^ 3 + k.xzzzz * x * z ^ 4

/-- `k.poly x y z − k.poly mx my mz` as `Σᵢ (xᵢ − mᵢ)·qᵢ`: the variables are moved to the centre one after the other, and `qᵢ`
carries each coefficient once with the divided difference of its monomial in `xᵢ` (`x·(mx + x) + mx²` for `x³`), nested so
that few products are formed: over intervals those are what the kernel pays for.  What depends on the centre alone (the
coefficients of `k.poly mx · ·` for `q₂`, of `k.poly mx my ·` for `q₃`) is computed in ℚ.  `lit` is `id` over ℚ and `E.lit`
for the syntax tree. -/
def slope {α : Type} [Add α] [Sub α] [Mul α] (lit : ℚ → α) (k : Coef) (mx my mz : ℚ) (x y z : α) : α :=
  (x - lit mx) * (lit k.x + lit k.xx * (lit mx + x) + lit k.xxx * (x * (lit mx + x) + lit (mx * mx))
      + y * (lit k.xy + lit k.xxy * (lit mx + x) + lit k.xyy * y + lit k.xyz * z)
      + z * (lit k.xz + lit k.xxz * (lit mx + x) + z * (lit k.xzz + lit k.xzzzz * (z * z))))
  + (y - lit my) * (lit (k.y + mx * (k.xy + k.xxy * mx)) + lit (k.yy + k.xyy * mx) * (lit my + y)
      + lit k.yyy * (y * (lit my + y) + lit (my * my))
      + z * (lit (k.yz + k.xyz * mx) + lit k.yyz * (lit my + y) + lit k.yzz * z))
  + (z - lit mz) * (lit (k.z + mx * (k.xz + k.xxz * mx) + my * (k.yz + k.yyz * my + k.xyz * mx))
      + lit (k.zz + k.xzz * mx + k.yzz * my) * (lit mz + z) + lit k.zzz * (z * (lit mz + z) + lit (mz * mz))
      + lit (k.xzzzz * mx) * ((lit mz + z) * (z * z + lit (mz * mz))))

theorem slope_eq (k : Coef) (mx my mz x y z : ℚ) :
    k.poly mx my mz + slope id k mx my mz x y z = k.poly x y z := by
  unfold Coef.poly slope
  simp only [id]
  ring

/-- the inner polynomial of `ptf4FcPoly` -/
def fcK : Coef :=
  { c := 0.0461615, x := 0.290955, xx := -0.0496845, xxx := 0.00704802, y := 0.269101, xy := -0.176528,
    xxy := 0.0543138, yy := 0.1982, yyy := -0.060699, z := -0.320249, xxz := -0.0111693, yz := 0.14104,
    xyz := 0.0657345, yyz := -0.102026, zz := -0.04012, xzz := 0.160838, yzz := -0.121392, zzz := -0.061667 }

/-- the inner polynomial of `ptf4WpPoly` -/
def wpK : Coef :=
  { c := 0.06865, x := 0.108713, xx := -0.0157225, xxx := 0.00102805, y := 0.886569, xy := -0.223581,
    xxy := 0.0126379, xyy := 0.0135266, yyy := -0.0334434, z := -0.0535182, xz := -0.0354271, xxz := -0.00261313,
    yz := -0.154563, xyz := -0.0160219, yyz := -0.0400606, xzzzz := -(0.104875 * 0.0159857), yzz := -0.0671656,
    zzz := -0.0260699 }

/-- the coefficients of `a + 100·(u·FC + v·WP)` of `ptf4` in the scaled variables: FC and WP are
`(29.7528 + 10.3544·fcK) / 100` and `(14.2568 + 7.36318·wpK) / 100` -/
def ptf4Mix (a u v : ℚ) : Coef :=
  let p := 10.3544 * u
  let q := 7.36318 * v
  ⟨a + 29.7528 * u + 14.2568 * v + p * fcK.c + q * wpK.c, p * fcK.x + q * wpK.x, p * fcK.y + q * wpK.y, p * fcK.z + q * wpK.z,
   p * fcK.xx + q * wpK.xx, p * fcK.xy + q * wpK.xy, p * fcK.xz + q * wpK.xz, p * fcK.yy + q * wpK.yy, p * fcK.yz + q * wpK.yz,
   p * fcK.zz + q * wpK.zz, p * fcK.xxx + q * wpK.xxx, p * fcK.xxy + q * wpK.xxy, p * fcK.xxz + q * wpK.xxz,
   p * fcK.xyy + q * wpK.xyy, p * fcK.xyz + q * wpK.xyz, p * fcK.xzz + q * wpK.xzz, p * fcK.yyy + q * wpK.yyy,
   p * fcK.yyz + q * wpK.yyz, p * fcK.yzz + q * wpK.yzz, p * fcK.zzz + q * wpK.zzz, p * fcK.xzzzz + q * wpK.xzzzz⟩

/-- `ptf4` writes the scaled variables with a negative literal -/
theorem ptf4Mix_poly (a u v c t s : ℚ) :
    (ptf4Mix a u v).poly (ptf4IxC c) (ptf4YpsC t) (ptf4ZetC s) = a + 100 * (u * (ptf4 c t s).1 + v * (ptf4 c t s).2) := by
  have e1 : (-0.837531 : ℚ) + 0.430183 * c = ptf4IxC c := by unfold ptf4IxC; ring
  have e2 : (-1.40744 : ℚ) + 0.0661969 * t = ptf4YpsC t := by unfold ptf4YpsC; ring
  have e3 : (-1.51866 : ℚ) + 0.0393284 * s = ptf4ZetC s := by unfold ptf4ZetC; ring
  unfold ptf4
  simp only [e1, e2, e3]
  generalize ptf4IxC c = x
  generalize ptf4YpsC t = y
  generalize ptf4ZetC s = z
  unfold ptf4Mix ptf4FcPoly ptf4WpPoly Coef.poly pow2 pow3
  simp only [fcK, wpK, lit100]
  ring

def ixE : E := ptf4IxC (E.var 0)
def ypsE : E := ptf4YpsC (E.var 0)
def zetE : E := ptf4ZetC (E.var 0)
def slopeE (k : Coef) (mx my mz : ℚ) : E := slope E.lit k mx my mz (E.var 0) (E.var 1) (E.var 2)

theorem ixE_eval (ρ : Nat → ℚ) : ixE.eval ρ = ptf4IxC (ρ 0) := rfl
theorem ypsE_eval (ρ : Nat → ℚ) : ypsE.eval ρ = ptf4YpsC (ρ 0) := rfl
theorem zetE_eval (ρ : Nat → ℚ) : zetE.eval ρ = ptf4ZetC (ρ 0) := rfl

theorem slopeE_eval (k : Coef) (mx my mz : ℚ) (ρ : Nat → ℚ) :
    (slopeE k mx my mz).eval ρ = slope id k mx my mz (ρ 0) (ρ 1) (ρ 2) := rfl

/-- enclosure of a scaled variable (`e` reads slot 0) over `i` -/
def scaled (e : E) (i : Iv) : Iv := e.ieval fun _ => i

theorem scaled_mem {e : E} {g : ℚ → ℚ} (he : ∀ ρ, e.eval ρ = g (ρ 0)) {i : Iv} {v : ℚ} (hv : i.mem v) :
    (scaled e i).mem (g v) := by
  have h := E.ieval_mem (fun _ => v) (fun _ => i) (fun _ => hv) e
  rwa [he] at h

def boxX (b : Box) : Iv := scaled ixE b.c
def boxY (b : Box) : Iv := scaled ypsE b.t
def boxZ (b : Box) : Iv := scaled zetE b.s

/-- enclosure of `k.poly` at the scaled variables over a box, in centred form: the value at the centre, evaluated in ℚ, plus
the enclosure of `slope`; the centre is the mid point of the enclosures of the scaled variables -/
def encl (k : Coef) (b : Box) : Iv :=
  Iv.pt (k.poly (boxX b).mid (boxY b).mid (boxZ b).mid) +
    (slopeE k (boxX b).mid (boxY b).mid (boxZ b).mid).ieval (env3 (boxX b) (boxY b) (boxZ b))

theorem encl_mem (k : Coef) {b : Box} {cap c t s : ℚ} (h : b.has cap c t s) :
    (encl k b).mem (k.poly (ptf4IxC c) (ptf4YpsC t) (ptf4ZetC s)) := by
  have hs := E.ieval_mem (env3 (ptf4IxC c) (ptf4YpsC t) (ptf4ZetC s)) _
    (env3_mem (scaled_mem ixE_eval h.hc) (scaled_mem ypsE_eval h.ht) (scaled_mem zetE_eval h.hs))
    (slopeE k (boxX b).mid (boxY b).mid (boxZ b).mid)
  rw [slopeE_eval] at hs
  rw [← slope_eq k (boxX b).mid (boxY b).mid (boxZ b).mid]
  exact mem_add (mem_pt _) hs

/-- the whole domain: C_org 0…6 %, clay 5…90 %, sand 5…85 % -/
def ptf4Root : Box := ⟨⟨0, 6⟩, ⟨5, 90⟩, ⟨5, 85⟩⟩

/-- the enclosure of `k.poly` is positive on every leaf of the subdivision `t` of the whole domain (side constraint
clay + sand ≤ 95 %) -/
def certifies (t : Cut) (k : Coef) : Bool :=
  verifyCut (fun b => decide (0 < (encl k b).lo)) 95 t ptf4Root

theorem pos_of_certifies {k : Coef} {t : Cut} (hk : certifies t k = true)
    {c ton s : ℚ} (hc0 : 0 ≤ c) (hc6 : c ≤ 6) (ht : 5 ≤ ton) (hs : 5 ≤ s) (hs85 : s ≤ 85) (hsum : ton + s ≤ 95) :
    0 < k.poly (ptf4IxC c) (ptf4YpsC ton) (ptf4ZetC s) :=
  verifyCut_sound _ 95 (fun c ton s => 0 < k.poly (ptf4IxC c) (ptf4YpsC ton) (ptf4ZetC s))
    (fun b hb c ton s h => lt_of_lt_of_le (of_decide_eq_true hb) (encl_mem k h).1)
    t ptf4Root hk c ton s ⟨⟨hc0, hc6⟩, ⟨ht, by show ton ≤ 90; linarith⟩, ⟨hs, hs85⟩, hsum⟩

/-! Any subdivision on whose leaves the enclosure is positive will do; these have the fewest leaves among those that bisect
(3, 16 and 2; found by search outside the development). -/

def wpCut : Cut :=
  .cut 1 (.cut 1 .leaf .leaf) .leaf

def gapCut : Cut :=
  .cut 1 (.cut 1 (.cut 0 (.cut 2 .leaf (.cut 2 .leaf (.cut 0 (.cut 1 (.cut 1 .leaf (.cut 1 .leaf .leaf)) .leaf) .leaf)))
  (.cut 2 .leaf .leaf)) (.cut 1 .leaf .leaf)) (.cut 1 (.cut 0 .leaf .leaf) (.cut 1 .leaf (.cut 0 .leaf .leaf)))

def fcCut : Cut :=
  .cut 1 .leaf .leaf

/-! The targets: 100·WP, 100·(FC − WP) and 100·(1 − FC). -/

theorem wpCut_certifies : certifies wpCut (ptf4Mix 0 0 1) = true := by decide +kernel
theorem gapCut_certifies : certifies gapCut (ptf4Mix 0 1 (-1)) = true := by decide +kernel
theorem fcCut_certifies : certifies fcCut (ptf4Mix 100 (-1) 0) = true := by decide +kernel

theorem ptf4_ordered (c ton ssand : ℚ) (hc0 : 0 ≤ c) (hc6 : c ≤ 6) (ht : 5 ≤ ton) (hs : 5 ≤ ssand)
    (hs85 : ssand ≤ 85) (hsum : ton + ssand ≤ 95) :
    0 < (ptf4 c ton ssand).2 ∧ (ptf4 c ton ssand).2 < (ptf4 c ton ssand).1 ∧ (ptf4 c ton ssand).1 < 1 := by
  have a := pos_of_certifies wpCut_certifies hc0 hc6 ht hs hs85 hsum
  have g := pos_of_certifies gapCut_certifies hc0 hc6 ht hs hs85 hsum
  have f := pos_of_certifies fcCut_certifies hc0 hc6 ht hs hs85 hsum
  rw [ptf4Mix_poly] at a g f
  exact ⟨by linarith, by linarith, by linarith⟩

end Hermes.SoilParams
