/-
The schedule model (HermesModel/Schedule.lean): the reading loop keeps exactly the in-period lines of the field;
the same-day shift on well-spaced schedules; the fertiliser split.
-/
import HermesModel.Schedule
import HermesProofs.Cursor
import HermesProofs.PlantArith
import Mathlib.Algebra.Order.Ring.Rat
import Mathlib.Tactic.Ring

namespace Hermes.Schedule

/-- the lines the property calls "scheduled inside the simulated period" as far as the start is
concerned: lines of the field dated on or after the start day, in file order -/
def inPeriod (beginn : Nat) (ls : List Ev) : List Ev :=
  ls.filter fun e => e.own && decide (beginn ≤ e.date)

theorem mem_inPeriod {b : Nat} {ls : List Ev} {e : Ev} (h : e ∈ inPeriod b ls) : e.own = true ∧ b ≤ e.date := by
  simpa using (List.mem_filter.mp h).2

theorem inPeriod_date_ge (b : Nat) (ls : List Ev) : ∀ d ∈ (inPeriod b ls).map (·.date), b ≤ d := by
  intro d hd
  obtain ⟨e, he, rfl⟩ := List.mem_map.mp hd
  exact (mem_inPeriod he).2

theorem readLoop_kept (b : Nat) (ls : List Ev) (st : ReadSt) :
    (readLoop b ls st).kept = st.kept ++ inPeriod b ls := by
  fun_induction readLoop b ls st with
  | case1 => simp [inPeriod]
  | case2 e r st ho ih =>
    have : e.own = false := by simpa using ho
    rw [ih]; simp [inPeriod, this]
  | case3 e r st ho hd ih =>
    rw [ih]; simp [inPeriod, Nat.not_le.mpr hd]
  | case4 e r st ho hd ih =>
    have : e.own = true := by simpa using ho
    rw [ih]; simp [inPeriod, this, Nat.le_of_not_lt hd]

theorem read_kept (b : Nat) (ls : List Ev) : (read b ls).kept = inPeriod b ls := by
  simp [read, readLoop_kept]

theorem keptDates_read (b : Nat) (ls : List Ev) : keptDates (read b ls) = (inPeriod b ls).map (·.date) := by
  rw [keptDates, read_kept]

/-- no dropped event is left in the slot behind the kept ones when the last line of the field is
in-period (in particular for files with ascending dates that contain an in-period event) -/
def lastOwnInPeriod (b : Nat) (ls : List Ev) : Bool :=
  match (ls.filter (·.own)).getLast? with
  | some e => decide (b ≤ e.date)
  | none => true

/-- A schedule (ascending day numbers, at most two per day) on which the same-day shift cannot collide
with a neighbour: after a same-day pair the next event is at least two days later.
`spaced p second ds`: `p` is the date of the predecessor, `second` tells that the predecessor is the
second of a pair. -/
def spaced : Nat → Bool → List Nat → Bool
  | _, _, [] => true
  | p, second, d :: r =>
    if second then decide (p + 2 ≤ d) && spaced d false r
    else if d = p then spaced d true r
    else decide (p < d) && spaced d false r

/-- the slot dates the property asks for: the date itself, one day later for the second of a pair -/
def expectShift : Nat → List Nat → List Nat
  | _, [] => []
  | p, d :: r => (if d = p then d + 1 else d) :: expectShift d r

theorem shiftFrom_spaced (ds : List Nat) (p : Nat) (second : Bool) (h : spaced p second ds = true) :
    shiftFrom (if second then p + 1 else p) ds = expectShift p ds := by
  fun_induction spaced p second ds with
  | case1 => rfl
  | case2 p d r ih =>
    simp only [Bool.and_eq_true, decide_eq_true_eq] at h
    have h1 : ¬ d ≤ p + 1 := by omega
    have h2 : ¬ d = p := by omega
    simp only [shiftFrom, expectShift, if_true, h1, h2, if_false]
    rw [← ih h.2]; rfl
  | case3 second d r hs ih =>
    obtain rfl : second = false := by simpa using hs
    simp only [shiftFrom, expectShift, Bool.false_eq_true, if_false, if_true, Nat.le_refl]
    rw [← ih h]; rfl
  | case4 p second d r hs hdp ih =>
    simp only [Bool.and_eq_true, decide_eq_true_eq] at h
    obtain rfl : second = false := by simpa using hs
    have h1 : ¬ d ≤ p := by omega
    simp only [shiftFrom, expectShift, Bool.false_eq_true, if_false, hdp, h1]
    rw [← ih h.2]; rfl

theorem shiftFrom_strict (ds : List Nat) (p : Nat) : (p :: shiftFrom p ds).Pairwise (· < ·) := by
  fun_induction shiftFrom p ds with
  | case1 => simp
  | case2 p d r d' ih =>
    have hd : p < d' := by simp only [d']; split <;> omega
    refine List.pairwise_cons.mpr ⟨fun x hx => ?_, ih⟩
    rcases List.mem_cons.mp hx with rfl | hx
    · exact hd
    · exact hd.trans (List.rel_of_pairwise_cons ih hx)

theorem shiftFrom_ge (ds : List Nat) (p : Nat) : List.Forall₂ (· ≤ ·) ds (shiftFrom p ds) := by
  fun_induction shiftFrom p ds with
  | case1 => exact List.Forall₂.nil
  | case2 p d r d' ih => exact List.Forall₂.cons (by simp only [d']; split <;> omega) ih

/-- tillage has no slot in front of its first event: its shift is the fertiliser's from any day before the first date -/
theorem shiftList_eq (ds : List Nat) (p : Nat) (h : ∀ d ∈ ds, p < d) : shiftList ds = shiftFrom p ds := by
  cases ds with
  | nil => rfl
  | cons d r => rw [shiftList, shiftFrom, if_neg (Nat.not_le.mpr (h d List.mem_cons_self))]

theorem irrKept_eq (b : Nat) (ls : List Ev) : irrKept b ls = inPeriod b ls := by
  unfold irrKept
  rw [read_kept]
  simp only [inPeriod, irrBeginnAtRead, List.filter_filter]
  congr 1
  funext e
  simp [Bool.and_comm]

theorem dueng_eq (q f : ℚ) (t : FertRow ℚ) :
    (dueng q f t).ndir = q * f * t.ntot * t.ndir * (1 - t.nh4 * t.loss) ∧
    (dueng q f t).nh4n = q * f * t.ntot * t.ndir * t.nh4 * (1 - t.loss) ∧
    (dueng q f t).nsas = (q * f * t.ntot - (dueng q f t).ndir) * t.nfst ∧
    (dueng q f t).nlas = (q * f * t.ntot - (dueng q f t).ndir) * t.nslo := by
  refine ⟨?_, rfl, rfl, rfl⟩
  simp only [dueng]; ring

theorem dueng_nonneg (q f : ℚ) (t : FertRow ℚ) (hN : 0 ≤ q * f * t.ntot) (hd : 0 ≤ t.ndir ∧ t.ndir ≤ 1)
    (hf : 0 ≤ t.nfst) (hs : 0 ≤ t.nslo) (h4 : 0 ≤ t.nh4 ∧ t.nh4 ≤ 1) (hl : 0 ≤ t.loss ∧ t.loss ≤ 1) :
    0 ≤ (dueng q f t).ndir ∧ 0 ≤ (dueng q f t).nsas ∧ 0 ≤ (dueng q f t).nlas := by
  obtain ⟨e1, -, e2, e3⟩ := dueng_eq q f t
  -- NDIR is a share of the total: `ndir · (1 − nh4 · loss)` lies in the unit interval
  obtain ⟨a0, a1⟩ := frac_between h4.1 h4.2 hl.1
  obtain ⟨b0, b1⟩ := frac_between hd.1 hd.2 (sub_nonneg.mpr (a1.trans hl.2))
  obtain ⟨h0, h1⟩ := frac_between b0 (b1.trans (sub_le_self _ a0)) hN
  rw [mul_comm, ← mul_assoc, ← e1] at h0 h1
  rw [e2, e3]
  exact ⟨h0, mul_nonneg (sub_nonneg.mpr h1) hf, mul_nonneg (sub_nonneg.mpr h1) hs⟩

end Hermes.Schedule
