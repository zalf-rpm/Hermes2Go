/-
Refinement: the Lean translation of the current Go source of `Denitr` (HermesModel/Generated/ImpDenitr.lean, regenerated on every
run) removes nitrate from the three top layers and books it exactly as the hand-written model `Mineral.denitr` does — for every
state and every behaviour of the `math` functions.  The moisture and temperature factors are what the source computes
(`1 − exp(−(θrel/0.766)^6)`, `1 − exp(−(T/15.5)^4.6)`).
-/
import HermesProofs.ImpLemmas
import HermesModel.Mineral
import HermesModel.Generated.ImpDenitr
import Mathlib.Tactic.NormNum

namespace Hermes.ImpDenitr
open Hermes.Imp Hermes.Mineral
open Hermes.Generated.Imp.Denitr

/-- one iteration of the removal loop (denit.go:52-59) writes the model's `denitLayer` into cell `z` -/
theorem loop1_body (m : MathFns ℚ) (z : Int) (t : St ℚ) (h0 : 0 ≤ z) (hz : z.toNat < t.g_C1.length) :
    loop1 m z t = { t with g_C1 := wr t.g_C1 z (denitLayer (rd t.g_C1 z) (rd t.v_layerFraction z) t.v_DENIT) } := by
  have hw : ∀ v, rd (wr t.g_C1 z v) z = v := fun v => rd_wr_same _ _ _ h0 hz
  unfold loop1 denitLayer Nitro.clamp0
  -- the write pushed into the branches of `denitLayer` gives the cascade of the body; no write is the write of the cell's own value
  simp only [apply_ite (fun v : ℚ => ({ t with g_C1 := wr t.g_C1 z v } : St ℚ)), lit0, hw, wr_wr_same, wr_rd_self]

/-- the removal loop over the three top layers (denit.go:52-59) -/
theorem loop1_eq (m : MathFns ℚ) (t : St ℚ) (h3 : 3 ≤ t.g_C1.length) :
    loopUp noBrk 0 3 (loop1 m) t
      = { t with g_C1 := fill t.g_C1 0 (fun z => denitLayer (rd t.g_C1 z) (rd t.v_layerFraction z) t.v_DENIT) 3 } :=
  loopUp_noBrk_eq (loop1 m) 0 3 3 rfl
    (fun k => { t with g_C1 := fill t.g_C1 0 (fun z => denitLayer (rd t.g_C1 z) (rd t.v_layerFraction z) t.v_DENIT) k })
    (fun k hk => by
      rw [loop1_body m _ _ (by omega) (by rw [length_fill]; omega)]
      simp only [rd_fill_next]
      rfl)

theorem loop1_rd (m : MathFns ℚ) (t : St ℚ) (h3 : 3 ≤ t.g_C1.length) (j : Int) :
    rd (loopUp noBrk 0 3 (loop1 m) t).g_C1 j
      = if 0 ≤ j ∧ j < 3 then denitLayer (rd t.g_C1 j) (rd t.v_layerFraction j) t.v_DENIT else rd t.g_C1 j := by
  rw [loop1_eq m t h3]
  exact rd_fill _ _ _ 3 (le_refl _) (by omega) j

theorem rd3_0 (a b c : ℚ) : rd [a, b, c] 0 = a := rfl
theorem rd3_1 (a b c : ℚ) : rd [a, b, c] 1 = b := rfl
theorem rd3_2 (a b c : ℚ) : rd [a, b, c] 2 = c := rfl

def nOf (s : St ℚ) : ℚ := rd s.g_C1 0 + rd s.g_C1 1 + rd s.g_C1 2

/-- `24/53` is the translator's folding of `1 − 1.45/2.65` (denit.go:21) -/
def thetasatOf (s : St ℚ) : ℚ :=
  if s.p_thetasatFromPorges = true then (rd s.g_PORGES 0 + rd s.g_PORGES 1 + rd s.g_PORGES 2) / 3 else 24 / 53

def thetarelOf (s : St ℚ) : ℚ := ((rd s.g_WG_1 0 + rd s.g_WG_1 1 + rd s.g_WG_1 2) / 3) / thetasatOf s

def tempOf (s : St ℚ) : ℚ :=
  if (rd s.g_TSOIL_0 0 + rd s.g_TSOIL_0 1 + rd s.g_TSOIL_0 2 + rd s.g_TSOIL_0 3) / 4 < 0 then 0
  else (rd s.g_TSOIL_0 0 + rd s.g_TSOIL_0 1 + rd s.g_TSOIL_0 2 + rd s.g_TSOIL_0 3) / 4

def fthetaOf (m : MathFns ℚ) (s : St ℚ) : ℚ := 1 - m.exp ((-1) * m.pow (thetarelOf s / 0.766) 6)
def ftempOf (m : MathFns ℚ) (s : St ℚ) : ℚ := 1 - m.exp ((-1) * m.pow (tempOf s / 15.5) 4.6)

/-- `h3`: the nitrate array holds the three top layers; nitrate below 30 cm is untouched -/
theorem denitr_refines (m : MathFns ℚ) (s : St ℚ) (h3 : 3 ≤ s.g_C1.length) :
    [rd (Generated.Imp.Denitr.run m s).g_C1 0, rd (Generated.Imp.Denitr.run m s).g_C1 1, rd (Generated.Imp.Denitr.run m s).g_C1 2]
        = (denitr (rd s.g_C1 0) (rd s.g_C1 1) (rd s.g_C1 2) (fthetaOf m s) (ftempOf m s) s.g_CUMDENIT).c ∧
      (Generated.Imp.Denitr.run m s).g_CUMDENIT = (denitr (rd s.g_C1 0) (rd s.g_C1 1) (rd s.g_C1 2) (fthetaOf m s) (ftempOf m s) s.g_CUMDENIT).cumdenit ∧
      (∀ j : Nat, 3 ≤ j → rd (Generated.Imp.Denitr.run m s).g_C1 (j : Int) = rd s.g_C1 (j : Int)) ∧
      (Generated.Imp.Denitr.run m s).g_C1.length = s.g_C1.length := by
  have e4 : (4.0 : ℚ) = 4 := by norm_num
  have e6 : (6.0 : ℚ) = 6 := by norm_num
  have e74 : (74.0 : ℚ) = 74 := by norm_num
  have e1274 : (1274.0 : ℚ) = 1274 := by norm_num
  have e1000 : (1000.0 : ℚ) = 1000 := by norm_num
  have e24 : (24.0 : ℚ) / 53.0 = 24 / 53 := by norm_num
  unfold Generated.Imp.Denitr.run
  by_cases hn : 0 < rd s.g_C1 0 + rd s.g_C1 1 + rd s.g_C1 2
  · -- No case split on the source of θsat, the temperature clamp or the N₂O cap (denit.go:70-72): an `if` between two states is read
    -- field by field (`apply_ite`); in the field it writes it is the `if` of `thetasatOf` / `tempOf`, in the others its branches agree.
    simp only [hn, lit0, lit1, lit3, e4, e6, e74, e1274, e1000, e24, ↓reduceIte, apply_ite St.v_thetasat, apply_ite St.g_C1,
      apply_ite St.v_layerFraction, apply_ite St.v_tempOb30, apply_ite St.g_TSOIL_0, apply_ite St.v_DENIT, apply_ite St.g_CUMDENIT,
      ite_self]
    -- the reads of `C1` after the loop first: `loop1_eq` would rewrite the loop under them
    simp only [loop1_rd, h3, Int.reduceLT, Int.reduceLE, and_self, ↓reduceIte]
    simp only [loop1_eq, length_fill, h3, rd3_0, rd3_1, rd3_2, denitr, hn, ↓reduceIte, denitRate, fthetaOf, ftempOf, thetarelOf,
      thetasatOf, tempOf, pow2]
    exact ⟨trivial, trivial, fun j hj => by rw [if_neg (by omega)], trivial⟩
  · -- no nitrate: `thetasat` alone is written
    simp only [hn, lit0, ↓reduceIte, apply_ite St.g_C1, apply_ite St.g_CUMDENIT, ite_self, denitr]
    exact ⟨trivial, trivial, fun _ _ => trivial, trivial⟩

end Hermes.ImpDenitr
