/-
A property of an `if` from the same property of its branches.  For a table written as a chain of
`if`s this avoids `split_ifs`, whose cost doubles with every further condition on a natural number.
-/
namespace Hermes

theorem ite_of_imp {α : Type} (P : α → Prop) {c : Prop} [Decidable c] {a b : α} (ha : c → P a) (hb : ¬c → P b) :
    P (if c then a else b) := by
  split
  · exact ha ‹_›
  · exact hb ‹_›

theorem ite_of_both {α : Type} (P : α → Prop) (c : Prop) [Decidable c] {a b : α} (ha : P a) (hb : P b) :
    P (if c then a else b) :=
  ite_of_imp P (fun _ => ha) (fun _ => hb)

end Hermes
