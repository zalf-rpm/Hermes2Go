/-
The calendar as the day loop reads it (`IsDay` against `kalenderDate` and `daysInYear`), the counters of one pass of the
day loop, and the monthly precipitation factor of a date.  Core Lean only.
-/
import HermesModel.Weather
import HermesModel.DayLoop
import HermesProofs.Calendar
import HermesProofs.Ite
namespace Hermes.Weather
open Hermes.Calendar Hermes.DayLoop

theorem daysInYear_le (y : Nat) : daysInYear y ≤ 366 := by unfold daysInYear; split <;> omega

theorem daysInYear_eq_diy (j : Nat) (h1 : 1 ≤ j) (h2 : j ≤ 199) : daysInYear (1900 + j) = diy j := by
  unfold daysInYear diy
  split <;> split <;> omega

theorem isDay_kalender {z j doy : Nat} (h : IsDay z j doy) :
    ∃ mon tg, ValidDate j mon tg ∧ kalenderDate z = some (j + 1900, mon, tg) ∧ ztdat j mon tg = doy := by
  obtain ⟨yr, mon, tg, hv, hk, hm⟩ := kalender_of_range z h.range.1 h.range.2
  have hd := isDay_of_date hv
  rw [hm] at hd
  obtain ⟨rfl, rfl⟩ := isDay_unique hd h
  exact ⟨mon, tg, hv, hk, rfl⟩

theorem isDay_of_kalender {z y mon tg : Nat} (h1 : 1 ≤ z) (h2 : z ≤ 72684) (hk : kalenderDate z = some (y, mon, tg)) :
    IsDay z (y - 1900) (ztdat (y - 1900) mon tg) := by
  obtain ⟨hv, hm⟩ := kalender_inv h1 h2 hk
  exact hm ▸ isDay_of_date hv

theorem applyLoad_some {π : Type} {st st' : DState π} {cap : Nat} (h : applyLoad st cap = some st') :
    st'.zeit = st.zeit ∧ st'.tagNum = st.tagNum ∧ st'.j = st.j := by
  unfold applyLoad at h
  split at h <;> cases h
  exact ⟨rfl, rfl, rfl⟩

theorem applyLoad_eq {π : Type} {st : DState π} {cap i days : Nat}
    (h : loadYear st.store cap (1900 + st.j) = some (i, days)) :
    applyLoad st cap = some { st with jtag := days, g := gLoad st.g st.store i days } := by
  simp only [applyLoad, h]

theorem applyLoad_eq_none {π : Type} {st : DState π} {cap : Nat} (h : loadYear st.store cap (1900 + st.j) = none) :
    applyLoad st cap = none := by
  simp only [applyLoad, h]

theorem gLoad_getD {π : Type} (g : List (Option π)) (s : Store π) (i days t : Nat) (ht : t < 366) :
    (gLoad g s i days).getD t none = if t < days then s.get i t else g.getD t none := by
  simp [gLoad, List.getD_eq_getElem?_getD, ht]

theorem applyLoad_loaded {π : Type} {st : DState π} {cap i days : Nat}
    (h : loadYear st.store cap (1900 + st.j) = some (i, days)) (hd : days ≤ 366) :
    ∃ st', applyLoad st cap = some st' ∧ st'.store = st.store ∧ st'.jtag = days ∧
      ∀ t, t < days → st'.g.getD t none = st.store.get i t :=
  ⟨_, applyLoad_eq h, rfl, rfl, fun t ht => (gLoad_getD _ _ _ _ _ (by omega)).trans (if_pos ht)⟩

theorem reload_some {π : Type} {src : Source π} {st st' : DState π} (h : reload src st = some st') :
    st'.zeit = st.zeit ∧ st'.tagNum = st.tagNum ∧ st'.j = st.j := by
  unfold reload at h
  cases src with
  | multi cap => exact applyLoad_some h
  | perYear files =>
    simp only at h
    split at h
    · exact applyLoad_some (st := { st with store := (readYearFile (1900 + st.j) st.store (files (1900 + st.j))).1 }) h
    · cases h

theorem advanceDay_some {π : Type} {src : Source π} {st st' : DState π} (h : advanceDay src st = some st') :
    st'.zeit = st.zeit ∧
    ((st.tagNum + 1 > st.jtag ∧ ¬ st.jtag < daysInYear (1900 + st.j) ∧ st'.j = st.j + 1 ∧ st'.tagNum = 1) ∨
     (¬ st.tagNum + 1 > st.jtag ∧ st'.j = st.j ∧ st'.tagNum = st.tagNum + 1)) := by
  unfold advanceDay at h
  simp only at h
  split at h
  · rename_i h1
    split at h
    · cases h
    · obtain ⟨a, b, c⟩ := reload_some h
      exact ⟨a, Or.inl ⟨h1, ‹_›, c, b⟩⟩
  · rename_i h1
    split at h
    · obtain ⟨a, b, c⟩ := reload_some h
      exact ⟨a, Or.inr ⟨h1, c, b⟩⟩
    · cases h
      exact ⟨rfl, Or.inr ⟨h1, rfl, rfl⟩⟩

theorem runDays_roll_none {π : Type} (src : Source π) (n : Nat) (st : DState π) (hroll : st.tagNum + 1 > st.jtag)
    (h : st.jtag < daysInYear (1900 + st.j) ∨ reload src { st with j := st.j + 1, tagNum := 1 } = none) :
    runDays src (n + 1) st = none := by
  have e : advanceDay src st = none := by
    simp only [advanceDay, hroll, if_true]
    rcases h with h | h
    · rw [if_pos h]
    · rw [h, ite_self]
  simp only [runDays, e]

theorem initState_fields {π : Type} {src : Source π} {store : Store π} {anjahr beginn itag : Nat} {st : DState π}
    (hs : initState src store anjahr beginn itag = some st) :
    st.zeit = beginn ∧ st.j = anjahr - 1900 ∧ st.tagNum = itag - 1 := by
  unfold initState at hs
  simp only at hs
  split at hs <;> cases hs
  rename_i st1 hr
  obtain ⟨a, _, c⟩ := reload_some hr
  exact ⟨a, c, rfl⟩

/-- state before a pass: `zeit` is the day number of today, `tagNum` still the day of the year of yesterday; no loaded
year is longer than its calendar year -/
def LockPre {π : Type} (st : DState π) : Prop :=
  st.zeit = masdat st.j 1 1 + st.tagNum ∧ st.tagNum ≤ diy st.j ∧ st.jtag ≤ diy st.j ∧ 1 ≤ st.j ∧ st.j ≤ 199

theorem advanceDay_isDay {π : Type} (src : Source π) (st st' : DState π) (h : LockPre st)
    (hs : advanceDay src st = some st') (hj : st'.j ≤ 199) : IsDay st'.zeit st'.j st'.tagNum := by
  obtain ⟨hz, ht, hjt, hj1, hj2⟩ := h
  obtain ⟨e1, e2⟩ := advanceDay_some hs
  rcases e2 with ⟨hgt, hfull, ej, et⟩ | ⟨hle, ej, et⟩
  · rw [daysInYear_eq_diy st.j hj1 hj2] at hfull
    have := diy_ge st'.j
    refine ⟨by omega, hj, by omega, by omega, ?_⟩
    rw [e1, ej, et, masdat_next_year st.j hj1]
    omega
  · exact ⟨by omega, hj, by omega, by rw [ej]; omega, by rw [e1, ej, et]; omega⟩

theorem lockstep_run {π : Type} (src : Source π) (n : Nat) :
    ∀ (st : DState π) (days : List (DayOut π)), runDays src n st = some days → LockPre st →
      (∀ d ∈ days, d.jtag ≤ diy d.j ∧ d.j ≤ 199) → ∀ d ∈ days, IsDay d.zeit d.j d.tagNum := by
  induction n with
  | zero =>
    intro st days hr _ _ d hd
    simp [runDays] at hr; subst hr; simp at hd
  | succ k ih =>
    intro st days hr h hb d hd
    simp only [runDays] at hr
    split at hr
    · cases hr
    · rename_i st1 hadv
      split at hr <;> cases hr
      · rename_i ds hrest
        have hb0 := hb (dayOut st1) (List.mem_cons_self ..)
        have hs := advanceDay_isDay src st st1 h hadv hb0.2
        rcases List.mem_cons.mp hd with rfl | hd'
        · exact hs
        · obtain ⟨a, b, c, e, f⟩ := hs
          exact ih _ ds hrest ⟨by show st1.zeit + 1 = _; omega, e, hb0.1, a, b⟩
            (fun d' hd'' => hb d' (List.mem_cons_of_mem _ hd'')) d hd'

theorem preco_table : ∀ y ∈ [1, 4], ∀ mon ∈ List.range 13, ∀ tg ∈ List.range 32,
    1 ≤ mon → 1 ≤ tg → tg ≤ daysInMonth y mon → corrMonth (corrDoy (y == 4) (ztdat y mon tg)) = mon - 1 := by
  decide +kernel

theorem preco_month (yr mon tg : Nat) (h : ValidDate yr mon tg) :
    corrMonth (corrDoy (daysInYear (1900 + yr) == 366) (ztdat yr mon tg)) = mon - 1 := by
  have hl : (daysInYear (1900 + yr) == 366) = (rep yr == 4) := by
    rw [daysInYear_eq_diy yr h.1 h.2.1]; unfold diy rep; split <;> rfl
  rw [hl, ztdat, monthOffset_rep]
  exact h.of_table preco_table

/-- the factor index as the pass computes it for the slot `doy - 1` of the day, from the leap flag of the calendar year -/
theorem corrMonth_of_isDay {z y mon tg j doy : Nat} (hd : IsDay z j doy) (hk : kalenderDate z = some (y, mon, tg)) :
    corrMonth (corrDoy (daysInYear y == 366) (doy - 1 + 1)) = mon - 1 := by
  obtain ⟨mon', tg', hv, hk', rfl⟩ := isDay_kalender hd
  cases hk.symm.trans hk'
  rw [Nat.sub_add_cancel hd.doy_pos, Nat.add_comm]
  exact preco_month j mon tg hv

theorem corrMonth_lt (T : Nat) : corrMonth T < 12 := by
  unfold corrMonth
  repeat' apply ite_of_both (· < 12)
  all_goals omega

end Hermes.Weather
