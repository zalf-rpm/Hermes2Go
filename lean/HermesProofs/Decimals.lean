/-
Decimal literals of the models and of the translated Go sources that denote integers.  `ring` (also `ring_nf`,
`linear_combination`) evaluates decimal literals itself, but for one whose value is an integer it builds an ill-typed proof
that the kernel rejects; rewriting these literals first (`simp only [lit0, lit1, lit100]`) lets `ring` work on the model's
polynomials directly, without a `norm_num` pass over the whole term.
-/
import HermesProofs.RatInst
import Mathlib.Tactic.NormNum

namespace Hermes

theorem lit0 : (0.0 : ℚ) = 0 := by norm_num
theorem lit1 : (1.0 : ℚ) = 1 := by norm_num
theorem lit2 : (2.0 : ℚ) = 2 := by norm_num
theorem lit3 : (3.0 : ℚ) = 3 := by norm_num
theorem lit10 : (10.0 : ℚ) = 10 := by norm_num
theorem lit24 : (24.0 : ℚ) = 24 := by norm_num
theorem lit100 : (100.0 : ℚ) = 100 := by norm_num

end Hermes
