/-
Rational interval arithmetic with a kernel-checkable soundness argument.  A definition that is polymorphic over
`Add`/`Sub`/`Mul` and the type of its constants (the scaled variables and `slope` of HermesProofs/Ptf4Cert.lean), instantiated at the expression type `E`,
is its own syntax tree (`E.eval` gives back the definition at ℚ by `rfl`); `E.ieval` evaluates a tree over intervals `Iv` with
rational end points, and the fundamental theorem of interval arithmetic is proved once for all trees (`E.ieval_mem`).
`verifyCut` checks a given subdivision of a box `c × t × s` with the side constraint `t + s ≤ cap` at its leaves; the
subdivision is data: whatever tree is given, an accepted run proves the statement about every point of the box.
-/
import Mathlib.Tactic.Linarith

namespace Hermes.Interval

/-- meaningful when `lo ≤ hi` -/
structure Iv where
  lo : ℚ
  hi : ℚ
  deriving DecidableEq

def Iv.mem (x : ℚ) (i : Iv) : Prop := i.lo ≤ x ∧ x ≤ i.hi

def Iv.pt (q : ℚ) : Iv := ⟨q, q⟩

instance : Add Iv := ⟨fun a b => ⟨a.lo + b.lo, a.hi + b.hi⟩⟩
instance : Sub Iv := ⟨fun a b => ⟨a.lo - b.hi, a.hi - b.lo⟩⟩
instance : Mul Iv := ⟨fun a b =>
  ⟨min (min (a.lo * b.lo) (a.lo * b.hi)) (min (a.hi * b.lo) (a.hi * b.hi)),
   max (max (a.lo * b.lo) (a.lo * b.hi)) (max (a.hi * b.lo) (a.hi * b.hi))⟩⟩
instance : OfScientific Iv := ⟨fun m s e => Iv.pt (OfScientific.ofScientific m s e)⟩

theorem mem_pt (q : ℚ) : Iv.mem q (Iv.pt q) := ⟨le_refl _, le_refl _⟩

theorem mem_ofScientific (m : Nat) (s : Bool) (e : Nat) :
    Iv.mem (OfScientific.ofScientific m s e : ℚ) (OfScientific.ofScientific m s e : Iv) := mem_pt _

theorem mem_add {x y : ℚ} {a b : Iv} (hx : a.mem x) (hy : b.mem y) : (a + b).mem (x + y) :=
  ⟨add_le_add hx.1 hy.1, add_le_add hx.2 hy.2⟩

theorem mem_sub {x y : ℚ} {a b : Iv} (hx : a.mem x) (hy : b.mem y) : (a - b).mem (x - y) :=
  ⟨sub_le_sub hx.1 hy.2, sub_le_sub hx.2 hy.1⟩

/-- for fixed `y` the product `x * y` is monotone or antitone in `x`, so it lies between its values at the ends -/
theorem mul_between {x lo hi : ℚ} (y : ℚ) (h1 : lo ≤ x) (h2 : x ≤ hi) :
    min (lo * y) (hi * y) ≤ x * y ∧ x * y ≤ max (lo * y) (hi * y) := by
  rcases le_total 0 y with hy | hy
  · exact ⟨le_trans (min_le_left _ _) (mul_le_mul_of_nonneg_right h1 hy),
      le_trans (mul_le_mul_of_nonneg_right h2 hy) (le_max_right _ _)⟩
  · exact ⟨le_trans (min_le_right _ _) (mul_le_mul_of_nonpos_right h2 hy),
      le_trans (mul_le_mul_of_nonpos_right h1 hy) (le_max_left _ _)⟩

/-- `mul_between` in `x`, then in `y` at both ends of `x` -/
theorem mem_mul {x y : ℚ} {a b : Iv} (hx : a.mem x) (hy : b.mem y) : (a * b).mem (x * y) := by
  have hxy := mul_between y hx.1 hx.2
  have hl := mul_between a.lo hy.1 hy.2
  have hh := mul_between a.hi hy.1 hy.2
  rw [mul_comm b.lo, mul_comm b.hi, mul_comm y] at hl hh
  exact ⟨le_trans (min_le_min hl.1 hh.1) hxy.1, le_trans hxy.2 (max_le_max hl.2 hh.2)⟩

def Iv.mid (i : Iv) : ℚ := (i.lo + i.hi) / 2

inductive E where
  | var (i : Nat)
  | lit (q : ℚ)
  | add (a b : E)
  | sub (a b : E)
  | mul (a b : E)

instance : Add E := ⟨E.add⟩
instance : Sub E := ⟨E.sub⟩
instance : Mul E := ⟨E.mul⟩
instance : OfScientific E := ⟨fun m s e => E.lit (OfScientific.ofScientific m s e)⟩

def E.eval (ρ : Nat → ℚ) : E → ℚ
  | .var i => ρ i
  | .lit q => q
  | .add a b => a.eval ρ + b.eval ρ
  | .sub a b => a.eval ρ - b.eval ρ
  | .mul a b => a.eval ρ * b.eval ρ

def E.ieval (R : Nat → Iv) : E → Iv
  | .var i => R i
  | .lit q => Iv.pt q
  | .add a b => a.ieval R + b.ieval R
  | .sub a b => a.ieval R - b.ieval R
  | .mul a b => a.ieval R * b.ieval R

theorem E.ieval_mem (ρ : Nat → ℚ) (R : Nat → Iv) (h : ∀ i, (R i).mem (ρ i)) :
    ∀ e : E, (e.ieval R).mem (e.eval ρ)
  | .var i => h i
  | .lit q => mem_pt q
  | .add a b => mem_add (E.ieval_mem ρ R h a) (E.ieval_mem ρ R h b)
  | .sub a b => mem_sub (E.ieval_mem ρ R h a) (E.ieval_mem ρ R h b)
  | .mul a b => mem_mul (E.ieval_mem ρ R h a) (E.ieval_mem ρ R h b)

def env3 {α : Type} (a b c : α) : Nat → α
  | 0 => a | 1 => b | _ => c

theorem env3_mem {a b c : ℚ} {A B C : Iv} (ha : A.mem a) (hb : B.mem b) (hc : C.mem c) :
    ∀ i, (env3 A B C i).mem (env3 a b c i)
  | 0 => ha | 1 => hb | (_ + 2) => hc

structure Box where
  c : Iv
  t : Iv
  s : Iv

/-- the point lies in the box and satisfies the side constraint `t + s ≤ cap` (the texture triangle) -/
structure Box.has (b : Box) (cap c t s : ℚ) : Prop where
  hc : b.c.mem c
  ht : b.t.mem t
  hs : b.s.mem s
  sum : t + s ≤ cap

/-- shrink the upper ends with the side constraint (`t ≤ cap − s ≤ cap − s.lo`) -/
def Box.clip (b : Box) (cap : ℚ) : Box :=
  { b with t := ⟨b.t.lo, min b.t.hi (cap - b.s.lo)⟩, s := ⟨b.s.lo, min b.s.hi (cap - b.t.lo)⟩ }

theorem Box.has_clip {b : Box} {cap c t s : ℚ} (h : b.has cap c t s) : (b.clip cap).has cap c t s :=
  { h with ht := ⟨h.ht.1, le_min h.ht.2 (by linarith [h.hs.1, h.sum])⟩
           hs := ⟨h.hs.1, le_min h.hs.2 (by linarith [h.ht.1, h.sum])⟩ }

theorem mem_halves {x : ℚ} {i : Iv} (h : i.mem x) : Iv.mem x ⟨i.lo, i.mid⟩ ∨ Iv.mem x ⟨i.mid, i.hi⟩ :=
  (le_total x i.mid).imp (fun hm => ⟨h.1, hm⟩) (fun hm => ⟨hm, h.2⟩)

/-- the two halves along side `d`: 0 = c, 1 = t, otherwise s -/
def Box.halves (b : Box) : Nat → Box × Box
  | 0 => ({ b with c := ⟨b.c.lo, b.c.mid⟩ }, { b with c := ⟨b.c.mid, b.c.hi⟩ })
  | 1 => ({ b with t := ⟨b.t.lo, b.t.mid⟩ }, { b with t := ⟨b.t.mid, b.t.hi⟩ })
  | _ => ({ b with s := ⟨b.s.lo, b.s.mid⟩ }, { b with s := ⟨b.s.mid, b.s.hi⟩ })

theorem Box.has_halves (d : Nat) {b : Box} {cap c t s : ℚ} (h : b.has cap c t s) :
    (b.halves d).1.has cap c t s ∨ (b.halves d).2.has cap c t s := by
  unfold Box.halves
  split
  · exact (mem_halves h.hc).imp (fun hm => { h with hc := hm }) (fun hm => { h with hc := hm })
  · exact (mem_halves h.ht).imp (fun hm => { h with ht := hm }) (fun hm => { h with ht := hm })
  · exact (mem_halves h.hs).imp (fun hm => { h with hs := hm }) (fun hm => { h with hs := hm })

/-- a subdivision: which boxes are cut in two, along which side, and which are checked as they are -/
inductive Cut where
  | leaf
  | cut (d : Nat) (l r : Cut)

/-- a box is accepted at a leaf if it has no admissible point or `check` accepts its clipped version, at a cut if both
halves of its clipped version are accepted; `check` is evaluated at the leaves only -/
def verifyCut (check : Box → Bool) (cap : ℚ) : Cut → Box → Bool
  | .leaf, b => decide (cap < b.t.lo + b.s.lo) || check (b.clip cap)
  | .cut d l r, b =>
    verifyCut check cap l ((b.clip cap).halves d).1 && verifyCut check cap r ((b.clip cap).halves d).2

theorem verifyCut_sound (check : Box → Bool) (cap : ℚ) (P : ℚ → ℚ → ℚ → Prop)
    (hcheck : ∀ b, check b = true → ∀ c t s, b.has cap c t s → P c t s) :
    ∀ (k : Cut) (b : Box), verifyCut check cap k b = true → ∀ c t s, b.has cap c t s → P c t s
  | .leaf, b, h, c, t, s, hb => by
    rw [verifyCut, Bool.or_eq_true] at h
    rcases h with h | h
    · linarith [of_decide_eq_true h, hb.ht.1, hb.hs.1, hb.sum]
    · exact hcheck _ h c t s (Box.has_clip hb)
  | .cut d l r, b, h, c, t, s, hb => by
    rw [verifyCut, Bool.and_eq_true] at h
    rcases Box.has_halves d (Box.has_clip hb) with h1 | h2
    · exact verifyCut_sound check cap P hcheck l _ h.1 c t s h1
    · exact verifyCut_sound check cap P hcheck r _ h.2 c t s h2

end Hermes.Interval
