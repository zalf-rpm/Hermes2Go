/-
The ordering C15 asks of a layer, the threshold helper `calcWRed` and the two linear pedotransfer functions
(model HermesModel/SoilParams.lean) over ℚ.
-/
import HermesProofs.Decimals
import HermesModel.SoilParams
import Mathlib.Tactic.Linarith
import Mathlib.Tactic.Ring

namespace Hermes.SoilParams

def Ordered (l : Layer ℚ) : Prop := 0 < l.wmin ∧ l.wmin < l.w ∧ l.w ≤ l.porges ∧ l.porges < 1

theorem calcWRed_between (s : Bool) (wp fc : ℚ) (h : wp < fc) :
    wp / 100 < calcWRed s wp fc ∧ calcWRed s wp fc < fc / 100 := by
  unfold calcWRed
  cases s <;> simp only [lit100, if_true, Bool.false_eq_true, if_false] <;> constructor <;> linarith

theorem calcWRed_scale (s : Bool) (wp fc t : ℚ) : calcWRed s (wp * t) (fc * t) = t * calcWRed s wp fc := by
  unfold calcWRed
  cases s <;> simp only [lit100, if_true, Bool.false_eq_true, if_false] <;> ring

/-- the call sites input.go:268-269 and run.go:417-418 feed the percent values `100·wmin`, `100·w` of a layer given in
fractions -/
theorem calcWRed_of_percent (s : Bool) (wmin w : ℚ) (h : wmin < w) :
    wmin < calcWRed s (wmin * 100.0) (w * 100.0) ∧ calcWRed s (wmin * 100.0) (w * 100.0) < w := by
  have := calcWRed_between s wmin w h
  rw [lit100, calcWRed_scale]
  constructor <;> linarith

theorem ptf2_ordered (c ton sluf : ℚ) (hc0 : 0 ≤ c) (hc6 : c ≤ 6) (ht : 5 ≤ ton) (hs : 5 ≤ sluf)
    (hsum : ton + sluf ≤ 95) :
    0 < (ptf2 c ton sluf).2 ∧ (ptf2 c ton sluf).2 < (ptf2 c ton sluf).1 ∧ (ptf2 c ton sluf).1 < 1 := by
  unfold ptf2
  simp only [lit100]
  refine ⟨?_, ?_, ?_⟩ <;> linarith

theorem ptf3_ordered (c ton sluf : ℚ) (hc0 : 0 ≤ c) (hc6 : c ≤ 6) (ht : 5 ≤ ton) (hs : 5 ≤ sluf)
    (hsum : ton + sluf ≤ 95) :
    0 < (ptf3 c ton sluf).2 ∧ (ptf3 c ton sluf).2 < (ptf3 c ton sluf).1 ∧ (ptf3 c ton sluf).1 < 1 := by
  unfold ptf3
  simp only [lit100]
  refine ⟨?_, ?_, ?_⟩ <;> linarith

end Hermes.SoilParams
