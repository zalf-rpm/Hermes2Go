/-
Lemmas about the model of the partition part of `Evatra` over ℚ.  The clamps of the Go code are
`max` / `min`, their range facts come from the lattice lemmas; in the deficit redistribution loop
the total never grows, nothing becomes negative and layers beyond the loop bound are untouched.
-/
import HermesProofs.RatInst
import HermesProofs.PlantArith
import HermesProofs.SumFrom
import HermesModel.Evatra
import Mathlib.Tactic.Linarith
import Mathlib.Tactic.Ring
import Mathlib.Tactic.FieldSimp
import Mathlib.Tactic.NormNum
import Mathlib.Tactic.Positivity

namespace Hermes.Evatra

theorem clamp0_eq_max (x : ℚ) : clamp0 x = max x 0 := (max_def_lt x 0).symm

theorem clamp0_of_nonneg {x : ℚ} (h : 0 ≤ x) : clamp0 x = x := by
  rw [clamp0_eq_max]; exact max_eq_left h

/-! `Conv ℚ`: the conversion of a layer number is the cast, Go's `int(x)` is the floor. -/

theorem ofNat_eq (k : ℕ) : (Conv.ofNat k : ℚ) = k := rfl

theorem truncNat_le_of_lt (x : ℚ) (j : ℕ) (h : x < (((j + 1 : ℕ)) : ℚ)) : (Conv.truncNat x : ℕ) ≤ j :=
  Int.toNat_le.mpr (Int.lt_add_one_iff.mp (Int.floor_lt.mpr (by exact_mod_cast h)))

theorem truncNat_le (x : ℚ) (n : ℕ) (h : x ≤ ((n : ℕ) : ℚ)) : (Conv.truncNat x : ℕ) ≤ n :=
  truncNat_le_of_lt x n (lt_of_le_of_lt h (Nat.cast_lt.mpr n.lt_succ_self))

/-- (VERDU, EVMAX, TRAMAX); the code's second cap, at 0.65, never engages -/
theorem capSplit_eq (crop : Bool) (v e : ℚ) (he1 : e ≤ 1) :
    capSplit crop v e =
      if crop then (min (max v 0) 0.65, min (max v 0) 0.65 * e, min (max v 0) 0.65 - min (max v 0) 0.65 * e)
      else (min (max v 0) 0.6, min (max v 0) 0.6, 0) := by
  unfold capSplit
  simp only [← max_def_lt, ← min_def_lt']
  cases crop
  · simp only [Bool.false_eq_true, if_false]
    rw [min_eq_left (le_trans (min_le_right _ _) (by norm_num))]
  · have h0 : 0 ≤ min (max v 0) 0.65 := le_min (le_max_right _ _) (by norm_num)
    simp only [if_true]
    rw [min_eq_left (le_trans (mul_le_of_le_one_right h0 he1) (min_le_right _ _))]

theorem capSplit_fst (crop : Bool) (v e : ℚ) : (capSplit crop v e).1 = min (max v 0) (if crop then 0.65 else 0.6) := by
  unfold capSplit
  simp only [← max_def_lt, ← min_def_lt']
  cases crop <;> rfl

theorem capSplit_le (crop : Bool) (v e : ℚ) :
    (capSplit crop v e).1 ≤ (if crop then 0.65 else 0.6) := by
  rw [capSplit_fst]; exact min_le_right _ _

theorem capSplit_fst_nonneg (crop : Bool) (v e : ℚ) : 0 ≤ (capSplit crop v e).1 := by
  rw [capSplit_fst]; exact le_min (le_max_right _ _) (by split_ifs <;> norm_num)

theorem capSplit_sum (crop : Bool) (v e : ℚ) (he1 : e ≤ 1) :
    (capSplit crop v e).2.1 + (capSplit crop v e).2.2 = (capSplit crop v e).1 := by
  rw [capSplit_eq crop v e he1]
  cases crop
  · exact add_zero _
  · exact add_sub_cancel _ _

/-- no hypothesis on the method's value: the code floors it at zero (the repair of finding F14) -/
theorem capSplit_nonneg (crop : Bool) (v e : ℚ) (he0 : 0 ≤ e) (he1 : e ≤ 1) :
    0 ≤ (capSplit crop v e).1 ∧ 0 ≤ (capSplit crop v e).2.1 ∧ 0 ≤ (capSplit crop v e).2.2 ∧
      (capSplit crop v e).2.1 ≤ (capSplit crop v e).1 := by
  rw [capSplit_eq crop v e he1]
  cases crop
  · have h0 : (0 : ℚ) ≤ min (max v 0) 0.6 := le_min (le_max_right _ _) (by norm_num)
    exact ⟨h0, h0, le_refl _, le_refl _⟩
  · have h0 : (0 : ℚ) ≤ min (max v 0) 0.65 := le_min (le_max_right _ _) (by norm_num)
    have h1 := mul_le_of_le_one_right h0 he1
    exact ⟨h0, mul_nonneg h0 he0, sub_nonneg.2 h1, h1⟩

theorem proz_eq (wg0 regen dz wmin0 w0 : ℚ) :
    proz wg0 regen dz wmin0 w0 = min ((max (wg0 + regen / dz) (wmin0 / 3) - wmin0 / 3) / (w0 - wmin0 / 3)) 1 := by
  simp only [proz, ← max_def_lt, ← min_def_lt']

theorem proz_unit (wg0 regen dz wmin0 w0 : ℚ) (h : wmin0 / 3 < w0) :
    0 ≤ proz wg0 regen dz wmin0 w0 ∧ proz wg0 regen dz wmin0 w0 ≤ 1 := by
  rw [proz_eq]
  exact ⟨le_min (div_nonneg (sub_nonneg.2 (le_max_right _ _)) (sub_pos.2 h).le) zero_le_one, min_le_right _ _⟩

theorem redev_unit (p : ℚ) (h0 : 0 ≤ p) (h1 : p ≤ 1) : 0 ≤ redev p ∧ redev p ≤ 1 := by
  unfold redev
  split_ifs with c1 c2 c3
  · exact seg_top_range (by norm_num) (by norm_num) c1.le h1 (by norm_num) (by norm_num)
  · exact seg_top_range (by norm_num) (by norm_num) c2.le (not_lt.mp c1) (by norm_num) (by norm_num)
  · exact seg_top_range (by norm_num) (by norm_num) c3.le (not_lt.mp c2) (by norm_num) (by norm_num)
  · exact seg_top_range (by norm_num) (by norm_num) h0 (not_lt.mp c3) (by norm_num) (by norm_num)

theorem trred_unit (x : ℚ) : 0 ≤ trred x ∧ trred x ≤ 1 := by
  unfold trred
  rw [clamp0_eq_max]
  refine ⟨le_max_right _ _, max_le ?_ zero_le_one⟩
  -- every segment is bounded on its own condition
  refine ite_of_imp (· ≤ 1) (fun h => by linarith) fun _ => ?_
  iterate 3 refine ite_of_imp (· ≤ 1) (fun h => seg_le (by norm_num) (by norm_num) h.le (by norm_num)) fun _ => ?_
  exact le_refl _

theorem wueffRaw_unit (x : ℚ) : 0 ≤ wueffRaw x ∧ wueffRaw x ≤ 1 := by
  unfold wueffRaw
  rw [clamp0_eq_max]
  refine ⟨le_max_right _ _, max_le ?_ zero_le_one⟩
  refine ite_of_imp (· ≤ 1) (fun h => by norm_num; linarith) fun _ => ?_
  iterate 2 refine ite_of_imp (· ≤ 1) (fun h => seg_le (by norm_num) (by norm_num) h.le (by norm_num)) fun _ => ?_
  exact le_refl _

theorem lured_unit (i : In ℚ) : 0 ≤ (lured i).1 ∧ (lured i).1 ≤ 1 := by
  unfold lured
  simp only [← max_def_lt, ← min_def_lt']
  split_ifs with hc
  · -- LURED = min (1 − q·(1 − m)) 1 with q = min(LUMDAY, 4)/4 ∈ [0, 1] and m = max(LUPOR, 0)/LUKRIT ≥ 0
    refine ⟨le_min ?_ zero_le_one, min_le_right _ _⟩
    have hq0 : (0 : ℚ) ≤ (Conv.ofNat (min (i.lumday + i.dtIdx) 4) : ℚ) / 4 :=
      div_nonneg (Nat.cast_nonneg _) (by norm_num)
    have hq1 : (Conv.ofNat (min (i.lumday + i.dtIdx) 4) : ℚ) / 4 ≤ 1 := by
      rw [div_le_one (by norm_num)]
      show ((min (i.lumday + i.dtIdx) 4 : ℕ) : ℚ) ≤ 4
      exact_mod_cast min_le_right (i.lumday + i.dtIdx) 4
    have hm0 := div_nonneg (le_max_right ((i.p0 + i.p1 + i.p2 - i.g0 - i.g1 - i.g2) / 3) 0) hc.1.le
    linarith [mul_nonneg hq0 hm0]
  · exact ⟨zero_le_one, le_refl _⟩

/-- root activity × root density of a layer -/
def wq (l : Lay ℚ) : ℚ := l.wueff * l.wudich

def LaysOk (ls : List (Lay ℚ)) : Prop := ∀ l ∈ ls, 0 ≤ l.tp ∧ 0 ≤ l.wueff ∧ 0 ≤ l.wudich

def ActOk (ls : List (Lay ℚ)) : Prop := ∀ l ∈ ls, 0 ≤ l.wueff ∧ 0 ≤ l.wudich

theorem LaysOk.act {ls : List (Lay ℚ)} (h : LaysOk ls) : ActOk ls := fun l hl => (h l hl).2

theorem wq_nonneg {ls : List (Lay ℚ)} (h : ActOk ls) : ∀ x ∈ ls.map wq, 0 ≤ x :=
  List.forall_mem_map.mpr fun l hl => mul_nonneg (h l hl).1 (h l hl).2

theorem wq_nonneg_of {ls : List (Lay ℚ)} (h : LaysOk ls) : ∀ x ∈ ls.map wq, 0 ≤ x := wq_nonneg h.act

theorem trest_eq (dz : ℚ) (l : Lay ℚ) :
    trest dz l = min l.tp (max (l.tp * (1 - l.trred))
      (if l.wg - l.wmin < l.tp / dz then min (l.tp / dz) (max 0 ((l.tp / dz - (l.wg - l.wmin)) * dz)) else 0)) := by
  unfold trest
  simp only [← max_def_lt, ← min_def_lt', min_comm, max_comm]

theorem trest_le (dz : ℚ) (l : Lay ℚ) : trest dz l ≤ l.tp := by
  rw [trest_eq]; exact min_le_left _ _

theorem trest_nonneg (dz : ℚ) (l : Lay ℚ) (hdz : 0 < dz) (h : 0 ≤ l.tp) : 0 ≤ trest dz l := by
  rw [trest_eq]
  refine le_min h (le_max_of_le_right ?_)
  split_ifs
  · exact le_min (div_nonneg h hdz.le) (le_max_left _ _)
  · exact le_refl _

theorem addShare_wq (tr w : ℚ) (k : ℕ) (ls : List (Lay ℚ)) : (addShare tr w k ls).map wq = ls.map wq := by
  fun_induction addShare tr w k ls with
  | case1 | case2 => rfl
  | case3 k l ls ih => simp only [List.map_cons, ih]; split_ifs <;> rfl

theorem addShare_ok (tr w : ℚ) (htr : 0 ≤ tr) (k : ℕ) (ls : List (Lay ℚ)) (h : LaysOk ls) :
    LaysOk (addShare tr w k ls) := by
  fun_induction addShare tr w k ls with
  | case1 | case2 => exact h
  | case3 k l ls ih =>
    obtain ⟨⟨h1, h2, h3⟩, hls⟩ := List.forall_mem_cons.mp h
    refine List.forall_mem_cons.mpr ⟨?_, ih hls⟩
    split_ifs with hw
    · exact ⟨add_nonneg h1 (div_nonneg (mul_nonneg (mul_nonneg htr h2) h3) hw.le), h2, h3⟩
    · exact ⟨h1, h2, h3⟩

theorem addShare_sum (tr w : ℚ) (hw : 0 < w) (k : ℕ) (ls : List (Lay ℚ)) :
    ((addShare tr w k ls).map (·.tp)).sum = (ls.map (·.tp)).sum + tr * ((ls.take k).map wq).sum / w := by
  fun_induction addShare tr w k ls with
  | case1 | case2 => simp
  | case3 k l ls ih =>
    simp only [if_pos hw, List.map_cons, List.sum_cons, List.take_succ_cons, ih, wq]
    field_simp
    ring

theorem addShare_of_not_pos (tr w : ℚ) (hw : ¬ 0 < w) (k : ℕ) (ls : List (Lay ℚ)) : addShare tr w k ls = ls := by
  fun_induction addShare tr w k ls <;> simp [*]

theorem addShare_sum_le (tr w : ℚ) (htr : 0 ≤ tr) (k : ℕ) (ls : List (Lay ℚ))
    (hinv : ((ls.take k).map wq).sum ≤ w) :
    ((addShare tr w k ls).map (·.tp)).sum ≤ (ls.map (·.tp)).sum + tr := by
  by_cases hw : 0 < w
  · rw [addShare_sum tr w hw, mul_div_assoc]
    exact add_le_add_right (mul_le_of_le_one_right htr ((div_le_one hw).mpr hinv)) _
  · rw [addShare_of_not_pos tr w hw]
    exact le_add_of_nonneg_right htr

theorem addShare_get (tr w : ℚ) (k : ℕ) (ls : List (Lay ℚ)) (j : ℕ) (hj : k ≤ j) :
    (addShare tr w k ls)[j]? = ls[j]? := by
  fun_induction addShare tr w k ls generalizing j with
  | case1 | case2 => rfl
  | case3 k l ls ih =>
    cases j with
    | zero => omega
    | succ j => simp only [List.getElem?_cons_succ]; exact ih j (by omega)

/-- Invariant of the loop (water.go:604-643): the remaining activity `wr` is at least the activity of
the layers the loop still visits.  TPAKT gains only uptakes the loop leaves in visited layers, so
it grows by at most the total. -/
theorem redist_spec (dz minv grw : ℚ) (hdz : 0 < dz) (cnt i : ℕ) (wr tpakt gw : ℚ) (ls : List (Lay ℚ))
    (hok : LaysOk ls) (hinv : ((ls.take cnt).map wq).sum ≤ wr) :
    (∀ t ∈ (redist dz minv grw cnt i wr tpakt gw ls).1, 0 ≤ t) ∧
    (redist dz minv grw cnt i wr tpakt gw ls).1.sum ≤ (ls.map (·.tp)).sum ∧
    tpakt ≤ (redist dz minv grw cnt i wr tpakt gw ls).2.1 ∧
    (redist dz minv grw cnt i wr tpakt gw ls).2.1 - tpakt ≤ (redist dz minv grw cnt i wr tpakt gw ls).1.sum := by
  fun_induction redist dz minv grw cnt i wr tpakt gw ls with
  | case1 i wr tpakt gw ls =>
    have htp : ∀ t ∈ ls.map (·.tp), 0 ≤ t := List.forall_mem_map.mpr fun l hl => (hok l hl).1
    exact ⟨htp, le_refl _, le_refl _, by rw [sub_self]; exact List.sum_nonneg htp⟩
  | case2 => simp
  | case3 cnt i weffrest tpakt gwauf l ls wr tr ls' t fi gw r ih =>
    obtain ⟨⟨h1, h2, h3⟩, hls⟩ := List.forall_mem_cons.mp hok
    have htr0 : 0 ≤ tr := trest_nonneg dz l hdz h1
    have htr1 : tr ≤ l.tp := trest_le dz l
    have hinv' : ((ls.take cnt).map wq).sum ≤ wr := by
      simp only [List.take_succ_cons, List.map_cons, List.sum_cons, wq] at hinv
      simp only [wr]; linarith
    have ht : t = l.tp - tr := clamp0_of_nonneg (by linarith)
    -- with or without a share handed on, the next layers stay admissible, keep their activities and gain at most `tr`
    have h' : LaysOk ls' ∧ ls'.map wq = ls.map wq ∧ (ls'.map (·.tp)).sum ≤ (ls.map (·.tp)).sum + tr :=
      ite_of_both (fun x => LaysOk x ∧ x.map wq = ls.map wq ∧ (x.map (·.tp)).sum ≤ (ls.map (·.tp)).sum + tr) _
        ⟨addShare_ok _ _ htr0 _ _ hls, addShare_wq _ _ _ _, addShare_sum_le _ _ htr0 _ _ hinv'⟩
        ⟨hls, rfl, le_add_of_nonneg_right htr0⟩
    obtain ⟨r1, r2, r3, r4⟩ := ih h'.1 (by rw [List.map_take, h'.2.1, ← List.map_take]; exact hinv')
    simp only [r, List.sum_cons, List.map_cons]
    exact ⟨List.forall_mem_cons.mpr ⟨by linarith, r1⟩, by linarith [h'.2.2], by linarith, by linarith⟩

theorem redist_get (dz minv grw : ℚ) (cnt i : ℕ) (wr tpakt gw : ℚ) (ls : List (Lay ℚ)) (j : ℕ) (hj : cnt ≤ j) :
    (redist dz minv grw cnt i wr tpakt gw ls).1[j]? = (ls[j]?).map (·.tp) := by
  fun_induction redist dz minv grw cnt i wr tpakt gw ls generalizing j with
  | case1 => simp
  | case2 => simp
  | case3 cnt i weffrest tpakt gwauf l ls wr tr ls' t fi gw r ih =>
    cases j with
    | zero => omega
    | succ j =>
      simp only [List.getElem?_cons_succ, r, ih j (by omega), ls']
      split_ifs
      · rw [addShare_get _ _ _ _ _ (by omega)]
      · rfl

theorem tpInit_length (tramax weff lr minv : ℚ) : ∀ (ls : List (Lay ℚ)) (k : ℕ),
    (tpInit tramax weff lr minv k ls).length = ls.length := by
  intro ls k
  fun_induction tpInit tramax weff lr minv k ls <;> simp [*]

theorem tpInit_wq (tramax weff lr minv : ℚ) (ls : List (Lay ℚ)) (k : ℕ) :
    (tpInit tramax weff lr minv k ls).map wq = ls.map wq := by
  fun_induction tpInit tramax weff lr minv k ls <;> simp [*, wq]

theorem tpInit_ok (tramax weff lr minv : ℚ) (ht : 0 ≤ tramax) (hl : 0 ≤ lr) (hw : 0 ≤ weff)
    (ls : List (Lay ℚ)) (k : ℕ) (hok : ActOk ls) : LaysOk (tpInit tramax weff lr minv k ls) := by
  fun_induction tpInit tramax weff lr minv k ls with
  | case1 => exact List.forall_mem_nil _
  | case2 k l ls t ih =>
    obtain ⟨⟨h2, h3⟩, hls⟩ := List.forall_mem_cons.mp hok
    refine List.forall_mem_cons.mpr ⟨⟨?_, h2, h3⟩, ih hls⟩
    simp only [t]
    split_ifs
    · exact le_refl _
    · positivity
    · exact le_refl _

/-- layers beyond `minv ≤ wurz` get nothing: in total at most the share of the first `wurz` layers -/
theorem tpInit_sum_le (tramax weff lr minv : ℚ) (wurz : ℕ) (hm : minv ≤ ((wurz : ℕ) : ℚ)) (hp : 0 ≤ tramax * lr)
    (hw : 0 ≤ weff) (ls : List (Lay ℚ)) (k : ℕ) (hok : ActOk ls) :
    ((tpInit tramax weff lr minv k ls).map (·.tp)).sum ≤ tramax * lr * (((ls.take (wurz + 1 - k)).map wq).sum / weff) := by
  fun_induction tpInit tramax weff lr minv k ls with
  | case1 => simp
  | case2 k l ls t ih =>
    obtain ⟨⟨h2, h3⟩, hls⟩ := List.forall_mem_cons.mp hok
    have hq : 0 ≤ wq l := mul_nonneg h2 h3
    have hih := ih hls
    simp only [List.map_cons, List.sum_cons]
    by_cases hk : k ≤ wurz
    · have ht : t ≤ tramax * lr * (wq l / weff) := by
        -- the layer gets its share or, in the two other branches, nothing
        have h0 := mul_nonneg hp (div_nonneg hq hw)
        simp only [t, wq]
        exact ite_of_both (· ≤ _) _ h0 (ite_of_both (· ≤ _) _ (le_of_eq (by ring)) h0)
      rw [show wurz + 1 - k = (wurz + 1 - (k + 1)) + 1 by omega, List.take_succ_cons, List.map_cons, List.sum_cons,
        add_div, mul_add]
      exact add_le_add ht hih
    · have ht : t = 0 := by
        simp only [t, ofNat_eq]
        exact if_pos (lt_of_le_of_lt hm (Nat.cast_lt.mpr (by omega)))
      rw [show wurz + 1 - (k + 1) = 0 by omega] at hih
      rw [ht, show wurz + 1 - k = 0 by omega, zero_add]
      exact hih

theorem tpInit_zero (tramax weff lr minv : ℚ) (ls : List (Lay ℚ)) (k j : ℕ) (x : Lay ℚ)
    (h : (tpInit tramax weff lr minv k ls)[j]? = some x) (hm : minv < (((k + j : ℕ)) : ℚ)) : x.tp = 0 := by
  fun_induction tpInit tramax weff lr minv k ls generalizing j with
  | case1 => simp at h
  | case2 k l ls t ih =>
    cases j with
    | zero =>
      simp only [List.getElem?_cons_zero, Option.some.injEq] at h
      rw [← h]
      simp only [t, ofNat_eq]
      rw [if_pos (by simpa using hm)]
    | succ j =>
      simp only [List.getElem?_cons_succ] at h
      exact ih j h (by rwa [Nat.add_right_comm, Nat.add_assoc])

theorem mkLays_ok (wurz : ℕ) (grw : ℚ) (gs ms xs ds : List ℚ) (k : ℕ) (hd : ∀ d ∈ ds, 0 ≤ d) :
    ActOk (mkLays wurz grw k gs ms xs ds) := by
  fun_induction mkLays wurz grw k gs ms xs ds with
  | case1 k g gs m ms x xs d ds inRoot wu ih =>
    obtain ⟨hd0, hds⟩ := List.forall_mem_cons.mp hd
    refine List.forall_mem_cons.mpr ⟨⟨?_, hd0⟩, ih hds⟩
    simp only [wu]
    split_ifs
    · exact le_refl _
    · exact (wueffRaw_unit x).1
    · exact le_refl _
  | case2 => exact List.forall_mem_nil _

theorem minRootGw_le (wurz : ℕ) (grw : ℚ) : minRootGw wurz grw ≤ ((wurz : ℕ) : ℚ) := by
  unfold minRootGw
  rw [ofNat_eq]
  split_ifs <;> linarith

theorem weffSum_eq (wurz : ℕ) (ls : List (Lay ℚ)) : weffSum wurz ls = ((ls.take wurz).map wq).sum := by
  unfold weffSum
  rw [sumFrom_eq, zero_add]
  rfl

theorem weffSum_nonneg {ls : List (Lay ℚ)} (h : ActOk ls) (wurz : ℕ) : 0 ≤ weffSum wurz ls := by
  rw [weffSum_eq]
  exact List.sum_nonneg (wq_nonneg fun l hl => h l (List.mem_of_mem_take hl))

theorem partition_verdu (i : In ℚ) : (partition i).verdu = (capSplit i.crop i.verdu0 i.elai).1 := by
  unfold partition; split <;> rfl

theorem partition_evmax (i : In ℚ) : (partition i).evmax = (capSplit i.crop i.verdu0 i.elai).2.1 := by
  unfold partition; split <;> rfl

theorem partition_tramax (i : In ℚ) : (partition i).tramax = (capSplit i.crop i.verdu0 i.elai).2.2 := by
  unfold partition; split <;> rfl

theorem partition_redev (i : In ℚ) :
    (partition i).redev = redev (proz (i.wg.headD 0) i.regen i.dz (i.wmin.headD 0) i.w0) := by
  unfold partition; split <;> rfl

theorem partition_eta (i : In ℚ) : (partition i).eta = (partition i).evmax * (partition i).redev := by
  unfold partition; split <;> rfl

theorem partition_fluss0 (i : In ℚ) :
    (partition i).fluss0 = -((partition i).evmax * (partition i).redev - i.regen) := by
  unfold partition; split <;> rfl

theorem partition_bare (i : In ℚ) (hc : i.crop = false) :
    (partition i).tp = List.replicate i.wg.length 0 ∧ (partition i).tpakt = 0 ∧
    (partition i).trrel = 1 ∧ (partition i).etrel = i.etrelPrev ∧
    (partition i).tp0 = List.replicate i.wg.length 0 ∧ (partition i).tramax = 0 := by
  unfold partition; simp only [hc, capSplit, Bool.false_eq_true, if_false, and_self]

theorem partition_crop (i : In ℚ) (hc : i.crop = true) :
    (partition i).lured = (lured i).1 ∧
    (partition i).trrel = (if 0 < (partition i).tramax then (partition i).tpakt / (partition i).tramax else i.trrelPrev) ∧
    (partition i).etrel = min (if 0 < (partition i).verdu then ((partition i).tpakt + (partition i).eta) / (partition i).verdu else 1) 1 := by
  unfold partition; simp only [hc, if_true, min_def_lt', and_self]

/-- the layer table of the day (water.go:527-559) -/
noncomputable def lays (i : In ℚ) : List (Lay ℚ) :=
  mkLays i.wurz i.grw 1 i.wg i.wmin (nfk i.regen i.dz i.wg i.wmin i.wnor) i.wudich

/-- the layers after the first distribution of the potential transpiration (water.go:591-601) -/
noncomputable def firstDist (i : In ℚ) : List (Lay ℚ) :=
  tpInit (capSplit i.crop i.verdu0 i.elai).2.2 (weffSum i.wurz (lays i)) (lured i).1 (minRootGw i.wurz i.grw) 1 (lays i)

/-- what the redistribution loop (water.go:604-643) returns: uptakes, TPAKT, GWAUF -/
noncomputable def loopOut (i : In ℚ) : List ℚ × ℚ × ℚ :=
  redist i.dz (minRootGw i.wurz i.grw) i.grw (Conv.truncNat (minRootGw i.wurz i.grw)) 1 (weffSum i.wurz (lays i)) 0 0
    (firstDist i)

theorem partition_tp (i : In ℚ) (hc : i.crop = true) :
    (partition i).tp0 = (firstDist i).map (·.tp) ∧ (partition i).tp = (loopOut i).1 ∧ (partition i).tpakt = (loopOut i).2.1 := by
  unfold partition loopOut firstDist lays
  simp only [hc, if_true, and_self]

theorem partition_uptake (i : In ℚ) (hdz : 0 < i.dz) (ht : 0 ≤ (partition i).tramax) (hd : ∀ d ∈ i.wudich, 0 ≤ d) :
    (∀ t ∈ (partition i).tp, 0 ≤ t) ∧ 0 ≤ (partition i).tpakt ∧ (partition i).tpakt ≤ (partition i).tp.sum ∧
    (partition i).tp.sum ≤ (partition i).tp0.sum ∧ (partition i).tp0.sum ≤ (partition i).tramax * (partition i).lured ∧
    (partition i).tramax * (partition i).lured ≤ (partition i).tramax := by
  cases hc : i.crop
  · -- bare soil: TRAMAX = 0 and no layer takes up anything
    obtain ⟨e1, e2, -, -, e3, e4⟩ := partition_bare i hc
    rw [e1, e2, e3, e4, List.sum_replicate, nsmul_zero, zero_mul]
    exact ⟨fun t ht => (List.eq_of_mem_replicate ht).ge, le_refl _, le_refl _, le_refl _, le_refl _, le_refl _⟩
  obtain ⟨e0, e1, e2⟩ := partition_tp i hc
  have hl := lured_unit i
  have hact : ActOk (lays i) := mkLays_ok _ _ _ _ _ _ 1 hd
  have hmin := minRootGw_le i.wurz i.grw
  have hw0 := weffSum_nonneg hact i.wurz
  rw [e0, e1, e2, (partition_crop i hc).1, loopOut]
  rw [partition_tramax] at ht ⊢
  have hp := mul_nonneg ht hl.1
  have hinv : (((firstDist i).take (Conv.truncNat (minRootGw i.wurz i.grw))).map wq).sum ≤ weffSum i.wurz (lays i) := by
    rw [List.map_take, firstDist, tpInit_wq, ← List.map_take, weffSum_eq]
    exact ((List.take_prefix_take_left (truncNat_le _ i.wurz hmin)).sublist.map wq).sum_le_sum
      (wq_nonneg fun l hl => hact l (List.mem_of_mem_take hl))
  obtain ⟨r1, r2, r3, r4⟩ := redist_spec i.dz _ i.grw hdz _ 1 _ 0 0 (firstDist i) (tpInit_ok _ _ _ _ ht hl.1 hw0 _ _ hact) hinv
  refine ⟨r1, r3, by linarith, r2, ?_, mul_le_of_le_one_right ht hl.2⟩
  refine (tpInit_sum_le _ _ _ _ i.wurz hmin hp hw0 _ 1 hact).trans ?_
  rw [Nat.add_sub_cancel, ← weffSum_eq]
  exact mul_le_of_le_one_right hp (div_self_le_one _)

end Hermes.Evatra
