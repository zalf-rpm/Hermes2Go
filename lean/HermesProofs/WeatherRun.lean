/-
The whole run: for a source that delivers, at every (re)load of a covered year, the records of that year in
the slots of their day of the year, every simulated day consumes the record of the calendar date of ZEIT —
by induction over the simulated days, across year changes.  Day numbers end at 72684 = 31 December 2099
(`IsDay.range`): `z + n ≤ 72685` says that the `n` days from `z` on are in that range.  Core Lean only.
-/
import HermesProofs.Weather
import HermesProofs.WeatherReaders
namespace Hermes.Weather
open Hermes.Calendar Hermes.DayLoop

variable {π : Type}

/-- One (re)load of year `y`: the input has at most the days of the year; no error, `JTAG = len y`,
slot `t` of the day arrays holds `W y (t + 1)` for every day the input has; `Inv` is what stays true of
the per-year arrays. -/
def ReloadOk (src : Source π) (Inv : Store π → Prop) (len : Nat → Nat) (W : Nat → Nat → Option π) (y : Nat) : Prop :=
  len y ≤ daysInYear y ∧
  ∀ st : DState π, Inv st.store → 1900 + st.j = y →
    ∃ st', reload src st = some st' ∧ Inv st'.store ∧ st'.jtag = len y ∧
      ∀ t, t < len y → st'.g.getD t none = W y (t + 1)

/-- the day arrays hold year `1900 + j` of the input: what a reload establishes and the day counter
does not touch -/
def Loaded (Inv : Store π → Prop) (len : Nat → Nat) (W : Nat → Nat → Option π) (st : DState π) : Prop :=
  Inv st.store ∧ 1 ≤ st.j ∧ st.j ≤ 199 ∧ st.jtag = len (1900 + st.j) ∧ st.jtag ≤ diy st.j ∧
    ∀ t, t < st.jtag → st.g.getD t none = W (1900 + st.j) (t + 1)

/-- state before a pass of the loop body: `zeit` is the day number of today, `tagNum` still yesterday's day of the
loaded year -/
def Good (Inv : Store π → Prop) (len : Nat → Nat) (W : Nat → Nat → Option π) (st : DState π) : Prop :=
  Loaded Inv len W st ∧ st.zeit = masdat st.j 1 1 + st.tagNum ∧ st.tagNum ≤ st.jtag

/-- the input has every simulated day: `C y doy` says that it has day `doy` of year `y` -/
def Covered (C : Nat → Nat → Prop) (z0 n : Nat) : Prop :=
  ∀ k, k < n → ∀ j doy, IsDay (z0 + k) j doy → C (1900 + j) doy

section
variable {src : Source π} {Inv : Store π → Prop} {len : Nat → Nat} {W : Nat → Nat → Option π}

theorem Loaded.jtag_eq {st : DState π} (h : Loaded Inv len W st) : st.jtag = len (1900 + st.j) := h.2.2.2.1

theorem Loaded.val {st : DState π} (h : Loaded Inv len W st) (h1 : 1 ≤ st.tagNum) (h2 : st.tagNum ≤ st.jtag) :
    (dayOut st).val = W (1900 + st.j) st.tagNum := by
  have := h.2.2.2.2.2 (st.tagNum - 1) (by omega)
  rwa [Nat.sub_add_cancel h1] at this

theorem reload_loaded {st : DState π} (hok : ReloadOk src Inv len W (1900 + st.j)) (hinv : Inv st.store)
    (h1 : 1 ≤ st.j) (h2 : st.j ≤ 199) :
    ∃ st', reload src st = some st' ∧ st'.zeit = st.zeit ∧ st'.tagNum = st.tagNum ∧ st'.j = st.j ∧
      Loaded Inv len W st' := by
  obtain ⟨hlen, hload⟩ := hok
  obtain ⟨st', hr, hinv', hjt, hg⟩ := hload st hinv rfl
  obtain ⟨ez, et, ej⟩ := reload_some hr
  refine ⟨st', hr, ez, et, ej, hinv', ?_⟩
  rw [ej, hjt]
  exact ⟨h1, h2, rfl, by rw [← daysInYear_eq_diy st.j h1 h2]; exact hlen, hg⟩

theorem reload_day {st : DState π} (hok : ReloadOk src Inv len W (1900 + st.j)) (hinv : Inv st.store)
    (hd : IsDay st.zeit st.j st.tagNum) (hlen : st.tagNum ≤ len (1900 + st.j)) :
    ∃ st1, reload src st = some st1 ∧ st1.zeit = st.zeit ∧ Loaded Inv len W st1 ∧ IsDay st1.zeit st1.j st1.tagNum ∧
      st1.tagNum ≤ st1.jtag := by
  obtain ⟨st1, hr, ez, et, ej, hL⟩ := reload_loaded hok hinv hd.1 hd.2.1
  exact ⟨st1, hr, ez, hL, by rw [ez, ej, et]; exact hd, by rw [et, hL.jtag_eq, ej]; exact hlen⟩

variable {C : Nat → Nat → Prop} (hC : ∀ y doy, C y doy → ReloadOk src Inv len W y ∧ doy ≤ len y)
include hC

theorem advanceDay_good (st : DState π) (hg : Good Inv len W st)
    (hcov : ∀ j doy, IsDay st.zeit j doy → C (1900 + j) doy) (hend : st.zeit + 1 ≤ 72685) :
    ∃ st1, advanceDay src st = some st1 ∧ st1.zeit = st.zeit ∧ Loaded Inv len W st1 ∧ IsDay st1.zeit st1.j st1.tagNum ∧
      st1.tagNum ≤ st1.jtag := by
  obtain ⟨hL, hz, htag⟩ := hg
  obtain ⟨hinv, hj1, hj2, hjt, hle, -⟩ := id hL
  -- a covered day of the calendar is a day the input has
  have hin : ∀ {j doy}, IsDay st.zeit j doy → ReloadOk src Inv len W (1900 + j) ∧ doy ≤ len (1900 + j) :=
    fun hd => hC _ _ (hcov _ _ hd)
  unfold advanceDay
  simp only
  by_cases hlast : st.tagNum < diy st.j
  · -- today is the next day of the same year: the input has it, so the day counter does not leave the year
    have hd : IsDay st.zeit st.j (st.tagNum + 1) := ⟨hj1, hj2, by omega, by omega, by omega⟩
    have := (hin hd).2
    rw [if_neg (by omega)]
    split
    · -- day 1 without a year change (a run that starts on 1 January): reload
      exact reload_day (st := { st with tagNum := st.tagNum + 1 }) (hin hd).1 hinv hd (hin hd).2
    · exact ⟨_, rfl, rfl, hL, hd, by show st.tagNum + 1 ≤ st.jtag; omega⟩
  · -- yesterday was the last day of its calendar year, so the year loaded was complete
    have := diy_ge st.j
    have hd : IsDay st.zeit (st.j + 1) 1 :=
      ⟨by omega, by have := masdat_jan1 st.j; omega, Nat.le_refl _, by have := diy_ge (st.j + 1); omega,
        by rw [masdat_next_year st.j hj1]; omega⟩
    rw [if_pos (by omega), if_neg (by rw [daysInYear_eq_diy st.j hj1 hj2]; omega)]
    exact reload_day (st := { st with j := st.j + 1, tagNum := 1 }) (hin hd).1 hinv hd (hin hd).2

theorem runDays_good (n : Nat) (st : DState π) (hg : Good Inv len W st) (hcov : Covered C st.zeit n) (hend : st.zeit + n ≤ 72685) :
    ∃ days, runDays src n st = some days ∧ days.map (·.zeit) = List.range' st.zeit n ∧
      ∀ d ∈ days, IsDay d.zeit d.j d.tagNum ∧ d.val = W (1900 + d.j) d.tagNum ∧ C (1900 + d.j) d.tagNum := by
  induction n generalizing st with
  | zero => exact ⟨[], rfl, rfl, by simp⟩
  | succ k ih =>
    obtain ⟨st1, hadv, hz1, hL, hday, hle⟩ := advanceDay_good hC st hg
      (fun j doy hd => hcov 0 (by omega) j doy (by simpa using hd)) (by omega)
    have hcov' : Covered C (st1.zeit + 1) k := fun i hi j doy hd =>
      hcov (i + 1) (by omega) j doy (by rw [show st.zeit + (i + 1) = st1.zeit + 1 + i by omega]; exact hd)
    obtain ⟨ds, hrest, hzs, hall⟩ := ih { st1 with zeit := st1.zeit + 1 } ⟨hL, hday.eq, hle⟩ hcov'
      (by show st1.zeit + 1 + k ≤ 72685; omega)
    refine ⟨dayOut st1 :: ds, by simp only [runDays, hadv, hrest], ?_, ?_⟩
    · rw [List.map_cons, List.range'_succ, hzs, ← hz1]; rfl
    · intro d hd
      rcases List.mem_cons.mp hd with rfl | hd'
      · exact ⟨hday, hL.val hday.doy_pos hle, hcov 0 (by omega) st1.j st1.tagNum (by rw [← hz1]; exact hday)⟩
      · exact hall d hd'

theorem runLoop_covered (store : Store π) (hinv : Inv store) (anjahr b it ndays : Nat)
    (hd0 : IsDay b (anjahr - 1900) it) (hn : 0 < ndays) (hend : b + ndays ≤ 72685)
    (hcov : Covered C b ndays) :
    ∃ st days, initState src store anjahr b it = some st ∧ runLoop src ndays st = some days ∧
      days.map (·.zeit) = List.range' b ndays ∧
      ∀ d ∈ days, IsDay d.zeit d.j d.tagNum ∧ d.val = W (1900 + d.j) d.tagNum ∧ C (1900 + d.j) d.tagNum := by
  obtain ⟨hok, hit⟩ := hC _ _ (hcov 0 hn _ _ (by simpa using hd0))
  obtain ⟨mon, tg, _, hk, _⟩ := isDay_kalender hd0
  obtain ⟨a1, a2, a3, a4, a5⟩ := hd0
  let st0 : DState π := { zeit := b, tagNum := 0, j := anjahr - 1900, jtag := 0, g := List.replicate 366 none, store := store }
  obtain ⟨st1, hr1, ez, -, ej, hL⟩ := reload_loaded (st := st0) hok hinv a1 a2
  obtain rfl : st1.zeit = b := ez
  replace ej : st1.j = anjahr - 1900 := ej
  have hgood : Good Inv len W { st1 with tagNum := it - 1 } :=
    ⟨hL, by show st1.zeit = masdat st1.j 1 1 + (it - 1); rw [ej]; omega, by show it - 1 ≤ st1.jtag; rw [hL.jtag_eq, ej]; omega⟩
  obtain ⟨days, hrun, hzs, hall⟩ := runDays_good hC ndays _ hgood hcov hend
  have hsy : startYearOk ({ st1 with tagNum := it - 1 } : DState π) = true := by
    show (match kalenderDate st1.zeit with | some (y, _, _) => y == 1900 + st1.j | none => false) = true
    rw [hk, ej]
    simp; omega
  refine ⟨_, days, by simp only [initState]; rw [show reload src st0 = some st1 from hr1], ?_, hzs, hall⟩
  simp only [runLoop, Nat.ne_of_gt hn, if_false, hsy, if_true]
  exact hrun

end

/-- the series has the line of day `doy` of year `y`, a year `LoadYear` can deliver -/
def MultiDay (recs : List (Rec π)) (sy cap : Nat) (y doy : Nat) : Prop :=
  ∃ r ∈ recs, r.year = y ∧ r.doy = doy ∧ sy ≤ y ∧ y < sy + cap

/-- Every day the series has in a year inside the allocated slots is delivered by `s`, the arrays `LoadYear` sees: `s0` as
read, or rewritten in place by the normalisation passes, which keep `JAR` and `MaxYearDays`. -/
theorem reloadOk_multi (recs : List (Rec π)) (sy cap n : Nat) (s0 s : Store π)
    (hv : ∀ r ∈ recs, ValidRec r) (hA : AlignedStore recs sy sy cap n s0)
    (hs : ∀ k, s.maxAt k = s0.maxAt k ∧ s.jarAt k = s0.jarAt k) (y doy : Nat) (hC : MultiDay recs sy cap y doy) :
    ReloadOk (.multi cap) (fun st => st = s) (fun y => s.maxAt (y - sy)) (fun y d => s.get (y - sy) (d - 1)) y ∧
      doy ≤ s.maxAt (y - sy) := by
  obtain ⟨r, hr, rfl, rfl, hy1, hy2⟩ := hC
  have hn := hA.slot_lt hr hy1 hy2
  obtain ⟨q, hq, hqy, hqm⟩ := hA.maxAt_is_doy hr hy1 hy2
  have hlen : s.maxAt (r.year - sy) ≤ daysInYear r.year := by
    rw [(hs _).1, hqm, ← hqy]; exact (hv q hq).2.2
  refine ⟨⟨hlen, ?_⟩, by rw [(hs _).1]; exact hA.doy_le_maxAt hr hy1 hy2⟩
  intro st hst hyst
  -- `JAR` holds consecutive years: the slot of the year is the first one that holds it
  have hload := loadYear_first s cap r.year (r.year - sy) (by rw [(hs _).2, hA.1 _ hn]; omega) (by omega)
    (fun i hi => by rw [(hs i).2, hA.1 i (by omega)]; omega)
  have h366 := daysInYear_le r.year
  obtain ⟨st', ha, hs', hj, hg⟩ := applyLoad_loaded (st := st) (by rw [hst, hyst]; exact hload) (by omega)
  exact ⟨st', ha, hs'.trans hst, hj, fun t ht => by rw [hg t ht, hst]; simp⟩

/-- the file of year `y` has lines numbered 1, 2, … within the length of the year, line `doy` among them -/
def YearFile (files : Nat → Option (List (Nat × π))) (vals : Nat → List π) (y doy : Nat) : Prop :=
  files y = some (numberFrom 1 (vals y)) ∧ (vals y).length ≤ daysInYear y ∧ 1 ≤ doy ∧ doy ≤ (vals y).length

theorem reloadOk_perYear (files : Nat → Option (List (Nat × π))) (vals : Nat → List π) (y doy : Nat)
    (hC : YearFile files vals y doy) :
    ReloadOk (.perYear files) (fun _ => True) (fun y => (vals y).length) (fun y d => (vals y)[d - 1]?) y ∧
      doy ≤ (vals y).length := by
  obtain ⟨hf, hn, h1, hle⟩ := hC
  refine ⟨⟨hn, ?_⟩, hle⟩
  intro st _ hyst
  obtain ⟨s1, e, b, c, d⟩ := readYearFile_aligned y st.store (vals y)
    (List.ne_nil_of_length_pos (Nat.lt_of_lt_of_le h1 hle)) hn
  have hload : loadYear s1 1 y = some (0, (vals y).length) := by
    rw [loadYear_first _ 1 y 0 b (by omega) (fun i hi => by omega), c]
  have h366 := daysInYear_le y
  obtain ⟨st', ha, _, hj, hg⟩ := applyLoad_loaded (st := { st with store := s1 }) (cap := 1)
    (by rw [hyst]; exact hload) (by omega)
  exact ⟨st', by simp only [reload, hyst, hf, e, if_true]; exact ha, trivial, hj,
    fun t ht => (hg t ht).trans ((d t ht).trans (by simp [show t < (vals y).length from ht]))⟩

/-- `r` is a line of the series whose date is the calendar date (`KalenderDate`) of day number `z` -/
def RecordOfDay (recs : List (Rec π)) (z : Nat) (r : Rec π) : Prop :=
  r ∈ recs ∧ ∃ mon tg, kalenderDate z = some (r.year, mon, tg) ∧ ztdat (r.year - 1900) mon tg = r.doy

theorem RecordOfDay.isDay {recs : List (Rec π)} {z : Nat} {r : Rec π} (h : RecordOfDay recs z r) (h1 : 1 ≤ z) (h2 : z ≤ 72684) :
    IsDay z (r.year - 1900) r.doy := by
  obtain ⟨_, mon, tg, hk, hz⟩ := h
  exact hz ▸ isDay_of_kalender h1 h2 hk

theorem recordOfDay_of_isDay {recs : List (Rec π)} {z : Nat} {r : Rec π} (hm : r ∈ recs) (hd : IsDay z (r.year - 1900) r.doy) :
    RecordOfDay recs z r := by
  obtain ⟨mon, tg, _, hk, hz⟩ := isDay_kalender hd
  have := hd.1
  rw [show r.year - 1900 + 1900 = r.year by omega] at hk
  exact ⟨hm, mon, tg, hk, hz⟩

theorem recordOfDay_isDay {recs : List (Rec π)} {z : Nat} {r : Rec π} {j doy : Nat}
    (h : RecordOfDay recs z r) (hd : IsDay z j doy) : r.year = 1900 + j ∧ r.doy = doy := by
  obtain ⟨e, e'⟩ := isDay_unique (h.isDay hd.range.1 hd.range.2) hd
  have := hd.1
  exact ⟨by omega, e'⟩

theorem isDay_next {l r : Rec π} {z : Nat} (hn : nextDayB l r = true) (hv : ValidRec r) (h2 : r.year ≤ 2099)
    (hd : IsDay z (l.year - 1900) l.doy) : IsDay (z + 1) (r.year - 1900) r.doy := by
  obtain ⟨a1, a2, a3, a4, a5⟩ := hd
  have hl := daysInYear_eq_diy (l.year - 1900) a1 a2
  rw [show 1900 + (l.year - 1900) = l.year by omega] at hl
  rcases nextDayB_cases l r hn with ⟨a, b⟩ | ⟨a, b, c⟩
  · have := hv.2.2
    rw [a] at this ⊢
    exact ⟨a1, a2, by omega, by omega, by omega⟩
  · have := diy_ge (l.year - 1900 + 1)
    rw [show r.year - 1900 = l.year - 1900 + 1 by omega, b]
    exact ⟨by omega, by omega, Nat.le_refl _, by omega, by rw [masdat_next_year _ a1]; omega⟩

/-- A gap-free series has a line for every day number between the days of two of its lines. -/
theorem gapFree_between (recs : List (Rec π)) (hg : GapFree recs) (hv : ∀ r ∈ recs, ValidRec r)
    {a c : Rec π} {za zc : Nat} (ha : a ∈ recs) (hc : c ∈ recs) (hda : IsDay za (a.year - 1900) a.doy)
    (hdc : IsDay zc (c.year - 1900) c.doy) (x : Nat) (h1 : za ≤ x) (h2 : x ≤ zc) :
    ∃ r ∈ recs, IsDay x (r.year - 1900) r.doy := by
  induction recs generalizing a za with
  | nil => exact absurd ha List.not_mem_nil
  | cons l rest ih =>
    have hv' : ∀ r ∈ rest, ValidRec r := fun r hr => hv r (List.mem_cons_of_mem _ hr)
    have lift : (∃ r ∈ rest, IsDay x (r.year - 1900) r.doy) → ∃ r ∈ l :: rest, IsDay x (r.year - 1900) r.doy :=
      fun ⟨r, hr, h⟩ => ⟨r, List.mem_cons_of_mem _ hr, h⟩
    rcases List.mem_cons.mp ha with rfl | ha'
    · by_cases hx : x = za
      · exact ⟨a, List.mem_cons_self .., hx ▸ hda⟩
      · -- `x` is a later day: `c` is a later line, and the second line is the line of day `za + 1`
        have hc' : c ∈ rest := by
          rcases List.mem_cons.mp hc with rfl | hc'
          · have := hda.eq
            have := hdc.eq
            omega
          · exact hc'
        cases rest with
        | nil => exact absurd hc' List.not_mem_nil
        | cons m rest' =>
          obtain ⟨hn, hg'⟩ := gapFree_cons.mp hg
          have := gapFree_year_le hg' hc'
          have := hdc.2.1
          exact lift (ih hg' hv' (List.mem_cons_self ..) hc'
            (isDay_next hn (hv' m (List.mem_cons_self ..)) (by omega) hda) (by omega))
    · rcases List.mem_cons.mp hc with rfl | hc'
      · -- a later line has a larger day number
        have := gapFree_later c rest hg a ha'
        have := hdc.1
        have := hda.1
        have := isDay_lt hdc hda (by omega)
        omega
      · exact lift (ih (gapFree_tail hg) hv' ha' hc' hda h1)

theorem daywise_of_endpoints {recs : List (Rec π)} (hv : ∀ r ∈ recs, ValidRec r) (hg : GapFree recs)
    {ycap b n : Nat} (hb : 1 ≤ b) (hn : 0 < n) (hend : b + n ≤ 72685) {r0 rL : Rec π}
    (h0 : RecordOfDay recs b r0) (hL : RecordOfDay recs (b + (n - 1)) rL) (hcap : rL.year < ycap) :
    ∀ k, k < n → ∃ r, RecordOfDay recs (b + k) r ∧ r.year < ycap := by
  intro k hk
  have hdL := hL.isDay (by omega) (by omega)
  obtain ⟨r, hr, hd⟩ := gapFree_between recs hg hv h0.1 hL.1 (h0.isDay hb (by omega)) hdL (b + k) (by omega) (by omega)
  have := isDay_year_mono hd hdL (by omega)
  have := hd.1
  exact ⟨r, recordOfDay_of_isDay hr hd, by omega⟩

/-- The run of the multi-year layouts, the cells rewritten in place between reading and loading by any `N` that keeps `JAR` and
`MaxYearDays` (nothing, or the normalisation passes): when every simulated day has its line in the series, neither the reader nor
the day loop returns an error and every day consumes the cell in the slot of the line of its date. -/
theorem multi_run_covered {recs : List (Rec π)} {anjahr cap b it ndays : Nat} (N : MState π → Store π)
    (hN : ∀ ms k, (N ms).maxAt k = ms.store.maxAt k ∧ (N ms).jarAt k = ms.store.jarAt k)
    (hv : ∀ r ∈ recs, ValidRec r) (hg : GapFree recs) (hd0 : IsDay b (anjahr - 1900) it) (hn : 0 < ndays)
    (hend : b + ndays ≤ 72685) (hcov : ∀ k, k < ndays → ∃ r, RecordOfDay recs (b + k) r ∧ r.year < anjahr + cap) :
    ∃ ms st days, readMulti anjahr cap recs = some ms ∧ AlignedStore recs anjahr anjahr cap ms.yrz ms.store ∧
      initState (.multi cap) (N ms) anjahr b it = some st ∧ runLoop (.multi cap) ndays st = some days ∧
      days.map (·.zeit) = List.range' b ndays ∧
      ∀ d ∈ days, IsDay d.zeit d.j d.tagNum ∧ ∃ r, RecordOfDay recs d.zeit r ∧ r.year = 1900 + d.j ∧ r.doy = d.tagNum ∧
        anjahr ≤ r.year ∧ r.year < anjahr + cap ∧ d.val = (N ms).get (r.year - anjahr) (r.doy - 1) := by
  have hcovG : Covered (MultiDay recs anjahr cap) b ndays := by
    intro k hk j doy hd
    obtain ⟨r, hr, hc⟩ := hcov k hk
    obtain ⟨e1, e2⟩ := recordOfDay_isDay hr hd
    have := isDay_year_mono hd0 hd (by omega)
    exact ⟨r, hr.1, e1, e2, by omega, by omega⟩
  -- the first simulated day has a line: slot 0 is the start year
  obtain ⟨r0, hr0, e0, -⟩ := hcovG 0 hn _ _ hd0
  obtain ⟨ms, hread, hA⟩ := readMulti_alignedStore anjahr cap recs hv hg
  rw [firstYear_eq anjahr recs hg ⟨r0, hr0, by have := hd0.1; omega⟩] at hA
  obtain ⟨st, days, hinit, hrun, hzs, hall⟩ := runLoop_covered
    (reloadOk_multi recs anjahr cap ms.yrz ms.store (N ms) hv hA (hN ms)) (N ms) rfl anjahr b it ndays hd0 hn hend hcovG
  refine ⟨ms, st, days, hread, hA, hinit, hrun, hzs, ?_⟩
  intro d hd
  obtain ⟨hday, hval, r, hr, e1, e2, c1, c2⟩ := hall d hd
  exact ⟨hday, r, recordOfDay_of_isDay hr (by rw [e1, e2, Nat.add_sub_cancel_left]; exact hday), e1, e2, by omega, by omega,
    by rw [hval, e1, e2]⟩

theorem runPerYear_covered (files : Nat → Option (List (Nat × π))) (vals : Nat → List π)
    {anjahr b it ndays : Nat} (hd0 : IsDay b (anjahr - 1900) it) (hn : 0 < ndays) (hend : b + ndays ≤ 72685)
    (hcov : Covered (YearFile files vals) b ndays) :
    ∃ days, runPerYear files anjahr b it ndays = some days ∧
      days.map (·.zeit) = List.range' b ndays ∧
      ∀ d ∈ days, IsDay d.zeit d.j d.tagNum ∧ (vals (1900 + d.j)).length ≤ daysInYear (1900 + d.j) ∧
        ∃ h : d.tagNum - 1 < (vals (1900 + d.j)).length, d.val = some (vals (1900 + d.j))[d.tagNum - 1] := by
  obtain ⟨st, days, hinit, hrun, hzs, hall⟩ := runLoop_covered (reloadOk_perYear files vals)
    {} trivial anjahr _ _ ndays hd0 hn hend hcov
  refine ⟨days, by simp only [runPerYear, hinit]; exact hrun, hzs, ?_⟩
  intro d hd
  obtain ⟨hday, hval, _, hlen, h1, hle⟩ := hall d hd
  have hlt : d.tagNum - 1 < (vals (1900 + d.j)).length := by omega
  exact ⟨hday, hlen, hlt, hval.trans (by simp [hlt])⟩

theorem recordOfDay_unique {recs : List (Rec π)} (hg : GapFree recs) {z : Nat} {r r' : Rec π}
    (h : RecordOfDay recs z r) (h' : RecordOfDay recs z r') : r' = r := by
  obtain ⟨hm, mon, tg, hk, hz⟩ := h
  obtain ⟨hm', mon', tg', hk', hz'⟩ := h'
  obtain ⟨a, rfl, rfl⟩ : r.year = r'.year ∧ mon = mon' ∧ tg = tg' := by simpa [hk] using hk'
  exact gapFree_date_unique recs hg r' hm' r hm a.symm (by rw [← hz, ← hz', a])

theorem yearfiles_covered (files : Nat → Option (List (Nat × π))) (vals : Nat → List π)
    {anjahr b it ndays yL monL tgL : Nat} (hd0 : IsDay b (anjahr - 1900) it) (hn : 0 < ndays) (hend : b + ndays ≤ 72685)
    (hlast : kalenderDate (b + (ndays - 1)) = some (yL, monL, tgL))
    (hfiles : ∀ y, anjahr ≤ y → y ≤ yL → files y = some (numberFrom 1 (vals y)) ∧ (vals y).length ≤ daysInYear y)
    (hfull : ∀ y, anjahr ≤ y → y < yL → (vals y).length = daysInYear y)
    (hreach : ztdat (yL - 1900) monL tgL ≤ (vals yL).length) :
    Covered (YearFile files vals) b ndays := by
  have hb1 := hd0.range.1
  have hdL := isDay_of_kalender (by omega) (by omega) hlast
  intro k hk j doy hd
  have m1 := isDay_year_mono hd0 hd (by omega)
  have m2 := isDay_year_mono hd hdL (by omega)
  have hj0 := hd0.1
  obtain ⟨hf, hl⟩ := hfiles (1900 + j) (by omega) (by omega)
  refine ⟨hf, hl, hd.doy_pos, ?_⟩
  by_cases hlt : 1900 + j < yL
  · rw [hfull (1900 + j) (by omega) hlt, daysInYear_eq_diy j hd.1 hd.2.1]
    exact hd.doy_le
  · obtain rfl : 1900 + j = yL := by omega
    rw [Nat.add_sub_cancel_left] at hdL hreach
    have a := hd.eq
    have c := hdL.eq
    omega

end Hermes.Weather
