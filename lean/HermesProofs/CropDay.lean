/-
Lemmas about the crop-day model (HermesModel/CropDay.lean) over ℚ: signs of the photosynthesis chain of
`radia`, the uptake distribution over the rooted layers, the growth rates of the organ loop.
-/
import HermesProofs.Crop
import HermesModel.CropDay
import Mathlib.Algebra.Order.BigOperators.Group.List
import Mathlib.Algebra.BigOperators.Ring.List

namespace Hermes.CropDay
open Hermes.Crop

theorem isZero_iff (x : ℚ) : isZero x = true ↔ x = 0 := by
  simp only [isZero, Bool.and_eq_true, Bool.not_eq_true', decide_eq_false_iff_not, not_lt]
  exact and_comm.trans le_antisymm_iff.symm

theorem pos_of_not_isZero {m : ℚ} (h : 0 ≤ m) (hz : ¬ isZero m = true) : 0 < m :=
  lt_of_le_of_ne h fun e => hz ((isZero_iff m).mpr e.symm)

theorem miFix_pos (m : ℚ) (h : 0 ≤ m) : 0 < miFix m := by
  simp only [miFix]
  split_ifs with hz
  · norm_num
  · exact pos_of_not_isZero h hz

theorem minMax_nonneg (a b : ℚ) (ha : 0 ≤ a) (hb : 0 ≤ b) : 0 ≤ (minMax a b).1 ∧ 0 ≤ (minMax a b).2 :=
  ite_of_both (fun p : ℚ × ℚ => 0 ≤ p.1 ∧ 0 ≤ p.2) _ ⟨ha, hb⟩ ⟨hb, ha⟩

/-- What the proofs about `radia` assume of its inputs. The first group are sign conditions on the state
and the weather; `co2` says that the CO2 compensation point 17.5·2^((T−10)/10) of CO2 method 1 lies below
the CO2 concentration (it is 198 ppm at 45 °C); the rest are the ranges of the library functions on the
arguments the model hands to them: sin of the solar elevation at noon ∈ (0,1] on a day with daylight, log ≥ 0
on [1,∞), exp ∈ (0,1] on (−∞,0], 2^x > 0. -/
structure RadiaRange (i : RadiaIn ℚ) (t : RadiaT ℚ) : Prop where
  dle : 0 ≤ i.dle
  drc : 0 ≤ i.drc
  lai : 0 ≤ i.lai
  sund : 0 ≤ i.sund
  trrel : 0 ≤ i.trrel
  worg : ∀ w ∈ i.worg, (0 : ℚ) ≤ w
  mairt : ∀ m ∈ i.mairt, (0 : ℚ) ≤ m
  co2 : i.co2meth = 1 → 0 < t.pow2co ∧ 17.5 * t.pow2co ≤ i.co2konz
  sslae : 0 < t.sslae ∧ t.sslae ≤ 1
  logX : 1 ≤ argX i t → 0 ≤ t.logX
  logY : 1 ≤ argY i t → 0 ≤ t.logY
  e8 : -0.8 * i.lai ≤ 0 → 0 < t.e8 ∧ t.e8 ≤ 1
  eC : argC i t ≤ 0 → 0 < t.eC ∧ t.eC ≤ 1
  eO : argO i t ≤ 0 → 0 < t.eO ∧ t.eO ≤ 1
  teff : 0 < t.teff

theorem amaxOf_ge (i : RadiaIn ℚ) (t : RadiaT ℚ) : 0.1 ≤ amaxOf i t := by
  simp only [amaxOf, ← max_def_lt]
  exact le_max_right _ _

theorem dleOf_pos (i : RadiaIn ℚ) (hdl : 0 < i.dl) (hdle : 0 ≤ i.dle) : 0 < dleOf i := by
  simp only [dleOf]
  split_ifs with h
  · norm_num
  · exact pos_of_not_isZero hdle fun hz => h ⟨hz, hdl⟩

theorem effOf_nonneg (i : RadiaIn ℚ) (t : RadiaT ℚ) (h : i.co2meth = 1 → 0 < t.pow2co ∧ 17.5 * t.pow2co ≤ i.co2konz) :
    0 ≤ effOf i t := by
  simp only [effOf, cocompOf]
  split_ifs with h1
  · have hp : (0 : ℚ) ≤ 17.5 * t.pow2co := mul_nonneg (by norm_num) (h h1).1.le
    have := sub_nonneg.2 (h h1).2
    have := hp.trans (h h1).2
    positivity
  · norm_num

theorem effe_nonneg (i : RadiaIn ℚ) (t : RadiaT ℚ) (h : i.co2meth = 1 → 0 < t.pow2co ∧ 17.5 * t.pow2co ≤ i.co2konz) :
    0 ≤ effe i t := by
  have := effOf_nonneg i t h
  simp only [effe]
  have h2 : (0 : ℚ) ≤ 1 - 0.08 := by norm_num
  positivity

theorem amaxOf_pos (i : RadiaIn ℚ) (t : RadiaT ℚ) : 0 < amaxOf i t :=
  lt_of_lt_of_le (by norm_num) (amaxOf_ge i t)

theorem expArg_nonpos (a b : ℚ) (ha : 0 ≤ a) (hb : 0 ≤ b) : negDiv (minMax a b).2 (miFix (minMax a b).1) ≤ 0 :=
  div_nonpos_of_nonpos_of_nonneg (neg_nonpos.2 (minMax_nonneg a b ha hb).2) (miFix_pos _ (minMax_nonneg a b ha hb).1).le

theorem lightClosure_nonneg (a b e : ℚ) (ha : 0 ≤ a) (hb : 0 ≤ b) (he : e ≤ 1) : 0 ≤ miFix (minMax a b).1 * (1 - e) :=
  mul_nonneg (miFix_pos _ (minMax_nonneg a b ha hb).1).le (sub_nonneg.2 he)

section chain
variable {i : RadiaIn ℚ} {t : RadiaT ℚ} (r : RadiaRange i t) (hdl : 0 < i.dl)
include r hdl

theorem argX_ge_one : 1 ≤ argX i t :=
  le_add_of_nonneg_right (lightArg_nonneg (by norm_num) r.drc (dleOf_pos i hdl r.dle) (effe_nonneg i t r.co2)
    r.sslae.1 (amaxOf_pos i t))

omit hdl in
theorem sslae_lt_five : 0 < 5.0 - t.sslae := sub_pos.2 (lt_of_le_of_lt r.sslae.2 (by norm_num))

theorem argY_ge_one : 1 ≤ argY i t :=
  le_add_of_nonneg_right (lightArg_nonneg (by norm_num) r.drc (dleOf_pos i hdl r.dle) (effe_nonneg i t r.co2)
    (sslae_lt_five r) (amaxOf_pos i t))

theorem phch_pos : 0 < phch i t := by
  have hd := (dleOf_pos i hdl r.dle).le
  have h1 := closure_nonneg r.sslae.1.le (amaxOf_pos i t).le hd (r.logX (argX_ge_one r hdl))
  have h2 := closure_nonneg (sslae_lt_five r).le (amaxOf_pos i t).le hd (r.logY (argY_ge_one r hdl))
  exact add_pos_of_nonneg_of_pos (mul_nonneg (by norm_num) (add_nonneg h1 h2)) (by norm_num)

omit hdl in
theorem e8_range : 0 < t.e8 ∧ t.e8 ≤ 1 := r.e8 (mul_nonpos_of_nonpos_of_nonneg (by norm_num) r.lai)

theorem phc3_nonneg : 0 ≤ phc3 i t :=
  mul_nonneg (phch_pos r hdl).le (sub_nonneg.2 (e8_range r).2)

theorem phc4_nonneg : 0 ≤ phc4 i t :=
  mul_nonneg (mul_nonneg hdl.le r.lai) (amaxOf_pos i t).le

theorem argC_nonpos : argC i t ≤ 0 :=
  expArg_nonpos _ _ (phc3_nonneg r hdl) (phc4_nonneg r hdl)

theorem phcl_nonneg : 0 ≤ phcl i t :=
  lightClosure_nonneg _ _ _ (phc3_nonneg r hdl) (phc4_nonneg r hdl) (r.eC (argC_nonpos r hdl)).2

theorem zOf_nonneg : 0 ≤ zOf i t :=
  lightArg_nonneg (by norm_num) r.drc (dleOf_pos i hdl r.dle) (effe_nonneg i t r.co2) (by norm_num) (amaxOf_pos i t)

theorem phoh_pos : 0 < phoh i t := by
  have := closure_nonneg (q := 5.0) (by norm_num) (amaxOf_pos i t).le (dleOf_pos i hdl r.dle).le (zOf_nonneg r hdl)
  exact add_pos_of_nonneg_of_pos (mul_nonneg (by norm_num) this) (by norm_num)

theorem pho3_nonneg : 0 ≤ pho3 i t :=
  mul_nonneg (phoh_pos r hdl).le (sub_nonneg.2 (e8_range r).2)

theorem argO_nonpos : argO i t ≤ 0 :=
  expArg_nonpos _ _ (pho3_nonneg r hdl) (phc4_nonneg r hdl)

theorem phol_nonneg : 0 ≤ phol i t :=
  lightClosure_nonneg _ _ _ (pho3_nonneg r hdl) (phc4_nonneg r hdl) (r.eO (argO_nonpos r hdl)).2

theorem dgac_nonneg : 0 ≤ dgac i t :=
  ite_of_both (0 ≤ ·) _ (phcl_nonneg r hdl) (phch_pos r hdl).le

theorem dgao_nonneg : 0 ≤ dgao i t :=
  ite_of_both (0 ≤ ·) _ (phol_nonneg r hdl) (phoh_pos r hdl).le

theorem sundClamp_range : 0 ≤ sundClamp i ∧ sundClamp i ≤ dleOf i := by
  simp only [sundClamp, ← min_def_lt']
  exact ⟨le_min r.sund (dleOf_pos i hdl r.dle).le, min_le_right _ _⟩

theorem dtga_nonneg : 0 ≤ dtga i t := by
  have hc := dgac_nonneg r hdl
  have ho := dgao_nonneg r hdl
  -- in both branches a convex combination of DGAC and DGAO
  simp only [dtga]
  split_ifs
  · have hd := dleOf_pos i hdl r.dle
    have hs := sundClamp_range r hdl
    exact convex_nonneg ho hc (div_nonneg hs.1 hd.le) ((div_le_one hd).2 hs.2)
  · exact convex_nonneg hc ho (clamp01_unit _).1 (clamp01_unit _).2

theorem gphot0_nonneg : 0 ≤ gphot0 i t := by
  have hg : 0 ≤ dtga i t * 30.0 / 44.0 := by have := dtga_nonneg r hdl; positivity
  exact ite_of_both (0 ≤ ·) _ (mul_nonneg hg r.trrel) hg

end chain

theorem zipMul_nonneg (a b : List ℚ) (ha : ∀ x ∈ a, (0 : ℚ) ≤ x) (hb : ∀ x ∈ b, (0 : ℚ) ≤ x) :
    ∀ x ∈ List.zipWith (· * ·) a b, (0 : ℚ) ≤ x := by
  intro x hx
  rw [← List.map_uncurry_zip_eq_zipWith] at hx
  obtain ⟨⟨p, q⟩, hpq, rfl⟩ := List.mem_map.mp hx
  exact mul_nonneg (ha p (List.of_mem_zip hpq).1) (hb q (List.of_mem_zip hpq).2)

theorem maints_eq (i : RadiaIn ℚ) : maints i = (mainorg i).sum := by simp [maints, sumFrom_eq]

theorem maints_nonneg (i : RadiaIn ℚ) (hw : ∀ w ∈ i.worg, (0 : ℚ) ≤ w) (hm : ∀ m ∈ i.mairt, (0 : ℚ) ≤ m) : 0 ≤ maints i := by
  rw [maints_eq]
  exact List.sum_nonneg (zipMul_nonneg _ _ hw hm)

theorem maint0_range {i : RadiaIn ℚ} {t : RadiaT ℚ} (r : RadiaRange i t) (hdl : 0 < i.dl) :
    0 ≤ maint0 i t ∧ maint0 i t ≤ gphot0 i t := by
  have hg := gphot0_nonneg r hdl
  have hm := maints_nonneg i r.worg r.mairt
  have ht := r.teff
  simp only [maint0, ← min_def_lt']
  exact ⟨le_min (by positivity) hg, min_le_right _ _⟩

theorem pi_pos : (0 : ℚ) < (pi : ℚ) := by simp only [pi]; norm_num

theorem peClamp_eq (c1 pe : ℚ) : peClamp c1 pe = max (min pe (c1 - 0.75)) 0 := by
  simp only [peClamp, ← max_def_lt, ← min_def_lt']

theorem peClamp_le_self (c1 pe : ℚ) (h : 0 ≤ pe) : peClamp c1 pe ≤ pe := by
  rw [peClamp_eq]; exact max_le (min_le_left _ _) h

theorem peOne_nonneg (d trn sd : ℚ) (m : ℚ × ℚ × ℚ) : 0 ≤ peOne d trn sd m := by
  simp only [peOne, peClamp_eq]
  exact ite_of_both (0 ≤ ·) _ (le_max_right _ _) (le_refl _)

theorem peOne_le_avail (d trn sd : ℚ) (m : ℚ × ℚ × ℚ) : peOne d trn sd m ≤ max 0 (m.1 - 0.75) := by
  simp only [peOne, peClamp_eq]
  rw [max_comm 0]
  exact ite_of_both (· ≤ max (m.1 - 0.75) 0) _ (max_le_max_right _ (min_le_right _ _)) (le_max_right _ _)

theorem massDiff_c1 (dt dz : ℚ) (ls : List (ULayer ℚ)) (idx : ℕ) : (massDiff dt dz idx ls).map (·.1) = ls.map (·.c1) := by
  fun_induction massDiff dt dz idx ls with
  | case1 => rfl
  | case2 idx l rest ih => rw [List.map_cons, ih]; split_ifs <;> rfl

/-- what the sum bound needs of a rooted layer: then the mass-flow term is ≥ 0 (the diffusion term is ≥ 0 by its floor) -/
structure LayerOk (l : ULayer ℚ) : Prop where
  tp : 0 ≤ l.tp
  c1 : 0 ≤ l.c1
  wg : 0 < l.wg

theorem massOf_nonneg (dt dz : ℚ) (l : ULayer ℚ) (h : LayerOk l) (hdt : 0 ≤ dt) (hdz : 0 < dz) : 0 ≤ massOf dt dz l := by
  have hwg := h.wg
  have hc := h.c1
  have := h.tp
  simp only [massOf]
  positivity

theorem diffOf_nonneg (dt : ℚ) (l : ULayer ℚ) : 0 ≤ diffOf dt l := by
  simp only [diffOf, ← max_def_lt]
  exact le_max_right _ _

theorem massDiff_nonneg (dt dz : ℚ) (hdt : 0 ≤ dt) (hdz : 0 < dz) (ls : List (ULayer ℚ)) (idx : ℕ)
    (hl : ∀ l ∈ ls, LayerOk l) : ∀ m ∈ massDiff dt dz idx ls, 0 ≤ m.2.1 ∧ 0 ≤ m.2.2 := by
  fun_induction massDiff dt dz idx ls with
  | case1 => simp
  | case2 idx l rest ih =>
    rw [List.forall_mem_cons] at hl ⊢
    exact ⟨ite_of_both (fun m : ℚ × ℚ × ℚ => 0 ≤ m.2.1 ∧ 0 ≤ m.2.2) _
      ⟨massOf_nonneg dt dz l hl.1 hdt hdz, diffOf_nonneg dt l⟩ ⟨le_refl _, le_refl _⟩, ih hl.2⟩

/-- crop.go:711-719 in one form: in each of the three branches the share before the limits is a weighted sum
`a · MASS + b · DIFF` whose weights depend on the sums only -/
theorem pePre_weights (d trn sd : ℚ) (hd : 0 < d) :
    ∃ a b : ℚ, 0 ≤ a ∧ 0 ≤ b ∧ a * trn + b * sd ≤ d ∧ ∀ m : ℚ × ℚ × ℚ, pePre d trn sd m = a * m.2.1 + b * m.2.2 := by
  by_cases ha : d ≤ trn
  · have hpos : 0 < trn := lt_of_lt_of_le hd ha
    refine ⟨d / trn, 0, by positivity, le_refl _, by rw [div_mul_cancel₀ _ hpos.ne']; simp, fun m => ?_⟩
    simp only [pePre, if_pos ha]; ring
  · by_cases hb : d - trn < sd
    · have h1 : 0 < d - trn := by linarith
      have hsd : 0 < sd := by linarith
      refine ⟨1, (d - trn) / sd, zero_le_one, by positivity, by rw [div_mul_cancel₀ _ hsd.ne']; linarith, fun m => ?_⟩
      simp only [pePre, if_neg ha, if_pos hb]; ring
    · refine ⟨1, 1, zero_le_one, zero_le_one, by linarith, fun m => ?_⟩
      simp only [pePre, if_neg ha, if_neg hb]; ring

theorem sum_peOne_le (d : ℚ) (md : List (ℚ × ℚ × ℚ)) (h : ∀ m ∈ md, 0 ≤ m.2.1 ∧ 0 ≤ m.2.2) :
    (md.map (peOne d (md.map (·.2.1)).sum (md.map (·.2.2)).sum)).sum ≤ max d 0 := by
  by_cases hd : 0 < d
  · -- every share is at most its weighted sum `a · MASS + b · DIFF`, and these add up to at most the demand
    obtain ⟨a, b, ha, hb, hle, hw⟩ := pePre_weights d (md.map (·.2.1)).sum (md.map (·.2.2)).sum hd
    refine le_trans (le_trans (List.sum_le_sum (g := fun m => a * m.2.1 + b * m.2.2) fun m hm => ?_) ?_) (le_max_left _ _)
    · obtain ⟨h1, h2⟩ := h m hm
      simp only [peOne, if_pos hd, hw]
      exact peClamp_le_self _ _ (by positivity)
    · rwa [List.sum_map_add, List.sum_map_mul_left, List.sum_map_mul_left]
  · refine (List.sum_eq_zero fun x hx => ?_).trans_le (le_max_right _ _)
    obtain ⟨m, _, rfl⟩ := List.mem_map.mp hx
    simp only [peOne, if_neg hd]

theorem uptakeCore_pe_nonneg (legum : Bool) (dt dz d massum diffsum : ℚ) (ls : List (ULayer ℚ)) :
    ∀ p ∈ (uptakeCore legum dt dz d massum diffsum ls).pe, 0 ≤ p := by
  intro p hp
  obtain ⟨m, _, rfl⟩ := List.mem_map.mp hp
  exact peOne_nonneg _ _ _ _

theorem wradOf_pos (beet : Bool) (i : ℕ) : (0 : ℚ) < wradOf beet i := by
  simp only [wradOf]
  split_ifs with h1 h2
  · norm_num
  · norm_num
  · exact not_le.mp h2

theorem rootLayers_nonneg (beet : Bool) (wumas dz : ℚ) (hdz : 0 < dz) (eqs : List (ℚ × ℚ)) (i : ℕ) (prev : ℚ) :
    ∀ x ∈ rootLayers beet wumas dz i prev eqs, 0 ≤ x.1 := by
  fun_induction rootLayers beet wumas dz i prev eqs with
  | case1 => simp
  | case2 i prev e em rest f w den ant ih =>
    have hden (y : ℚ) : 0 ≤ fabs y / (w * w * pi) / dz :=
      div_nonneg (div_nonneg (fabs_nonneg y) (mul_nonneg (mul_self_nonneg w) pi_pos.le)) hdz.le
    exact List.forall_mem_cons.2 ⟨ite_of_both (0 ≤ ·) _ (hden _) (hden _), ih⟩

/-- the soil state a rooted layer carries -/
def ULayer.soil (l : ULayer ℚ) : SoilL ℚ := { c1 := l.c1, tp := l.tp, wg := l.wg, ad := l.ad, ewg := l.ewg }

/-- the rooted layers are the first soil layers, each with the data of its roots added -/
theorem mkLayers_prefix (beet : Bool) (ss : List (SoilL ℚ)) (i : ℕ) (rs : List (ℚ × ℚ)) (qs : List ℚ) :
    (mkLayers beet i ss rs qs).map ULayer.soil <+: ss := by
  fun_induction mkLayers beet i ss rs qs with
  | case1 i s ss den ant rs q qs ih => exact (List.prefix_cons_inj s).mpr ih
  | case2 => exact List.nil_prefix

theorem demandClamp_eq (dt d : ℚ) : demandClamp dt d = max (min d (6.0 * dt)) 0 := by
  simp only [demandClamp, ← max_def_lt, ← min_def_lt']

theorem demandClamp_range (dt d : ℚ) (hdt : 0 ≤ dt) : 0 ≤ demandClamp dt d ∧ demandClamp dt d ≤ 6.0 * dt ∧ demandClamp dt d ≤ max d 0 := by
  rw [demandClamp_eq]
  exact ⟨le_max_right _ _, max_le (min_le_right _ _) (by positivity), max_le_max_right _ (min_le_left _ _)⟩

theorem nfixOf_range (legum : Bool) (d sumpe : ℚ) (hd : 0 ≤ d) (h2 : sumpe ≤ d) :
    0 ≤ nfixOf legum d sumpe ∧ nfixOf legum d sumpe ≤ 0.74 * d := by
  have h74 : 0 ≤ 0.74 * d := mul_nonneg (by norm_num) hd
  simp only [nfixOf, ← min_def_lt]
  exact ite_of_both (fun x => 0 ≤ x ∧ x ≤ 0.74 * d) _ ⟨le_min h74 (sub_nonneg.2 h2), min_le_left _ _⟩ ⟨le_rfl, h74⟩

/-- the rooted layers `uptakeDay` hands to `uptakeCore` -/
noncomputable def dayLayers (i : UptakeIn ℚ) : List (ULayer ℚ) :=
  mkLayers i.beet 1 (i.soil.take (uptakeLayers i.eqs.length i.grw)) (rootLayers i.beet i.wumas i.dz 1 0 i.eqs) i.sq

theorem uptakeDay_core (i : UptakeIn ℚ) :
    (uptakeDay i).core = uptakeCore i.legum i.dt i.dz (uptakeDay i).dtgesn i.massum i.diffsum (dayLayers i) := by
  simp only [uptakeDay, dayLayers]  -- not `rfl`: the check that the equation holds by unfolding alone is slow here

theorem uptakeDay_dtgesn_le (i : UptakeIn ℚ) :
    (uptakeDay i).dtgesn ≤ demandClamp i.dt (demandRaw i.beet i.active i.gehmax i.obmas i.wumas i.worg3 i.wgmax i.pesum i.dt) := by
  simp only [uptakeDay, demandCap]
  split_ifs with h
  · exact h.1.le
  · exact le_refl _

theorem uptakeDay_dtgesn_legum (i : UptakeIn ℚ) (hl : i.legum = true) (hdt : 0 ≤ i.dt) : 0 ≤ (uptakeDay i).dtgesn := by
  -- a legume's demand is not capped by the root length: it is the clamped demand
  have h : (uptakeDay i).dtgesn
      = demandClamp i.dt (demandRaw i.beet i.active i.gehmax i.obmas i.wumas i.worg3 i.wgmax i.pesum i.dt) := by
    simp only [uptakeDay, demandCap, hl]; simp
  rw [h]; exact (demandClamp_range _ _ hdt).1

theorem uptakeDay_pe (i : UptakeIn ℚ) :
    (uptakeDay i).pe = (uptakeDay i).core.pe ++ i.peOld.drop (uptakeDay i).core.pe.length := rfl

theorem uptakeDay_pe_length (i : UptakeIn ℚ) : (uptakeDay i).core.pe.length = (dayLayers i).length := by
  simpa [uptakeDay_core, uptakeCore] using congrArg List.length (massDiff_c1 i.dt i.dz (dayLayers i) 0)

theorem dayLayers_prefix (i : UptakeIn ℚ) :
    (dayLayers i).map ULayer.soil <+: i.soil ∧ (dayLayers i).length ≤ uptakeLayers i.eqs.length i.grw := by
  simpa only [dayLayers, List.length_map] using List.prefix_take_iff.mp (mkLayers_prefix ..)

theorem dayLayers_soil (i : UptakeIn ℚ) : (dayLayers i).map ULayer.soil = i.soil.take (dayLayers i).length := by
  simpa only [List.length_map] using List.prefix_iff_eq_take.mp (dayLayers_prefix i).1

theorem dayLayers_ok (i : UptakeIn ℚ) (hs : ∀ s ∈ i.soil, 0 ≤ s.tp ∧ 0 ≤ s.c1 ∧ 0 < s.wg) : ∀ l ∈ dayLayers i, LayerOk l :=
  fun l hl =>
    have h := hs l.soil ((dayLayers_prefix i).1.subset (List.mem_map_of_mem hl))
    ⟨h.1, h.2.1, h.2.2⟩

theorem organLoop_gorg (e : OrganEnv ℚ) (gehalt : ℚ) (orgs : List (OrganPar ℚ × ℚ × ℚ)) (i : ℕ) (st : OrgState ℚ) :
    (organLoop e gehalt i orgs st).gorg = st.gorg ++ orgs.map (fun x => (rates e x.1 x.2.1 x.2.2).1) := by
  fun_induction organLoop e gehalt i orgs st with
  | case1 => simp
  | case2 i p w d rest st ih => rw [ih]; simp [organStep]

theorem sum_rates (e : OrganEnv ℚ) (h : ¬ 1 < e.sumI / e.tsumI) : ∀ (orgs : List (OrganPar ℚ × ℚ × ℚ)),
    (orgs.map (fun x => (rates e x.1 x.2.1 x.2.2).1)).sum =
      e.gtw * 0.7 * ((orgs.map (·.1.proPrev)).sum + ((orgs.map (·.1.proCur)).sum - (orgs.map (·.1.proPrev)).sum) * e.sumI / e.tsumI) * e.reduk
        - e.maint * (orgs.map (·.1.mant)).sum * 0.7 := by
  intro orgs
  induction orgs with
  | nil => simp
  | cons x rest ih =>
    simp only [List.map_cons, List.sum_cons]
    rw [ih]
    simp only [rates, if_neg h]
    ring


theorem withMant_pro (orgs : List (OrganPar ℚ × ℚ × ℚ)) (ms : List ℚ) :
    (withMant orgs ms).map (·.1.proPrev) = orgs.map (·.1.proPrev) ∧ (withMant orgs ms).map (·.1.proCur) = orgs.map (·.1.proCur) := by
  fun_induction withMant orgs ms with
  | case1 p w d rest m ms ih => simp only [List.map_cons, ih, and_self]
  | case2 | case3 => exact ⟨rfl, rfl⟩

theorem withMant_mant (orgs : List (OrganPar ℚ × ℚ × ℚ)) (ms : List ℚ) (h : ms.length = orgs.length) :
    (withMant orgs ms).map (·.1.mant) = ms := by
  fun_induction withMant orgs ms with
  | case1 p w d rest m ms ih => simp only [List.map_cons, ih (by simpa using h)]
  | case2 rest => rw [List.length_eq_zero_iff.mp h.symm]; rfl
  | case3 ms => rw [List.length_eq_zero_iff.mp h]; rfl

end Hermes.CropDay
