/-
Generic facts about the prelude of the imperative translation (`HermesModel/Imp.lean`).  A loop is described by an equation: the
state after `k` iterations (`loopUp_noBrk_eq`), the array a loop leaves that writes one cell per iteration (`fill`); arrays are
read through the views `vw` (the first `n` cells) and `seg` (`n` cells from `i`).  A loop over
layers is compared with a model recursion over the remaining layers through `Patch`: this iteration changed the cells at `i`,
the remaining iterations the cells from `i + 1` on (`Patch.comp`).
-/
import HermesProofs.Decimals
import HermesModel.Imp
import Mathlib.Data.List.GetD

namespace Hermes.Imp

section
variable {σ : Type}

theorem loopUp_eq_loopUpN (brk : σ → Bool) (body : Int → σ → σ) (a b : Int) (n : Nat) (hn : (b - a).toNat = n) (s : σ) :
    loopUp brk a b body s = loopUpN brk body n a s := by
  subst hn; rfl

theorem loopDown_eq_loopDownN (brk : σ → Bool) (body : Int → σ → σ) (a b : Int) (n : Nat) (hn : (a - b + 1).toNat = n) (s : σ) :
    loopDown brk a b body s = loopDownN brk body n a s := by
  subst hn; rfl

theorem loopUpN_noBrk_succ (body : Int → σ → σ) (n : Nat) (i : Int) (s : σ) :
    loopUpN noBrk body (n + 1) i s = loopUpN noBrk body n (i + 1) (body i s) := rfl

theorem loopDownN_noBrk_succ (body : Int → σ → σ) (n : Nat) (i : Int) (s : σ) :
    loopDownN noBrk body (n + 1) i s = loopDownN noBrk body n (i - 1) (body i s) := rfl

theorem loopUpN_succ_brk (brk : σ → Bool) (body : Int → σ → σ) (n : Nat) (i : Int) (s : σ)
    (h : brk (body i s) = true) : loopUpN brk body (n + 1) i s = body i s := by
  show (if brk (body i s) = true then body i s else _) = _
  rw [if_pos h]

theorem loopUpN_succ_cont (brk : σ → Bool) (body : Int → σ → σ) (n : Nat) (i : Int) (s : σ)
    (h : brk (body i s) = false) : loopUpN brk body (n + 1) i s = loopUpN brk body n (i + 1) (body i s) := by
  show (if brk (body i s) = true then _ else _) = _
  rw [if_neg (by rw [h]; exact Bool.false_ne_true)]

theorem loopUp_noBrk_eq (body : Int → σ → σ) (a b : Int) (n : Nat) (hn : (b - a).toNat = n) (g : Nat → σ)
    (h : ∀ k, k < n → body (a + k) (g k) = g (k + 1)) :
    loopUp noBrk a b body (g 0) = g n := by
  subst hn
  exact loopUp_noBrk_ind body (fun k t => t = g k) a b (g 0) rfl (fun k hk t ht => by rw [ht, h k hk])

/-- What no iteration changes (`f` of the state), the loop does not change; `P` is what the iterations need of the value of `f`
in order to leave it alone (a flag among its components that switches a block of the body off). -/
theorem loopUp_frame {β : Type} (f : σ → β) (P : β → Prop) (brk : σ → Bool) (body : Int → σ → σ)
    (h : ∀ i t, P (f t) → f (body i t) = f t) (a b : Int) (s : σ) (hs : P (f s)) : f (loopUp brk a b body s) = f s :=
  loopUp_inv brk body (fun t => f t = f s) (fun i t ht => (h i t (ht ▸ hs)).trans ht) a b s rfl

end

/-! The translation counts the layers in `Int`, the proofs in `Nat`; the casts meet at `i + 1` (with core's `Int.natCast_add_one`). -/

theorem natCast_succ_sub_one (i : Nat) : ((i + 1 : Nat) : Int) - 1 = (i : Int) := by omega

theorem natCast_eq_iff_toNat (D : Int) (k : Nat) (hk : 1 ≤ k) : ((k : Int) = D) ↔ (k = D.toNat) := by omega

section
variable {β : Type}

theorem wr_wr_same (l : List β) (i : Int) (y x : β) : wr (wr l i y) i x = wr l i x := by
  unfold wr
  split
  · rfl
  · exact List.set_set ..

variable [Inhabited β]

theorem wr_rd_self (l : List β) (i : Int) : wr l i (rd l i) = l := by
  unfold wr rd
  split
  · rfl
  · by_cases h : i.toNat < l.length
    · simp [List.getD_eq_getElem?_getD, h]
    · exact List.set_eq_of_length_le (not_lt.mp h)

/-- a cell read after it was written holds the written value, or the default when the index lies outside the array -/
theorem rd_wr_self_of {P : β → Prop} (l : List β) (i : Int) {x : β} (hx : P x) (hd : P default) : P (rd (wr l i x) i) := by
  by_cases h : 0 ≤ i ∧ i.toNat < l.length
  · rw [rd_wr_same l i x h.1 h.2]; exact hx
  · unfold rd
    split
    · exact hd
    · rw [List.getD_eq_default _ _ (by rw [length_wr]; omega)]; exact hd

theorem rd_wr_nat (l : List β) (i j : Nat) (v : β) (h : i < l.length) :
    rd (wr l (i : Int) v) (j : Int) = if i = j then v else rd l (j : Int) := by
  rw [rd_wr l (i : Int) (j : Int) v (by omega) (by simpa using h)]
  exact if_congr (by omega) rfl rfl

/-- `l` after the writes `l[a+d] = F (a+d)` for `d = 0, …, n-1`: what `for i := a; i < a+n; i++ { l[i] = F i }` leaves -/
def fill (l : List β) (a : Int) (F : Int → β) : Nat → List β
  | 0 => l
  | n + 1 => wr (fill l a F n) (a + n) (F (a + n))

omit [Inhabited β] in
@[simp] theorem length_fill (l : List β) (a : Int) (F : Int → β) (n : Nat) : (fill l a F n).length = l.length := by
  induction n with
  | zero => rfl
  | succ n ih => rw [fill, length_wr, ih]

theorem rd_fill_of_not_mem (l : List β) (a : Int) (F : Int → β) (n : Nat) (j : Int) (h : j < a ∨ a + n ≤ j) :
    rd (fill l a F n) j = rd l j := by
  induction n with
  | zero => rfl
  | succ n ih => rw [fill, rd_wr_ne _ _ _ _ (by omega), ih (by omega)]

/-- after `n` iterations the cell of the next one is untouched: what a loop body `l[i] = f(l[i])` reads -/
theorem rd_fill_next (l : List β) (a : Int) (F : Int → β) (n : Nat) : rd (fill l a F n) (a + n) = rd l (a + n) :=
  rd_fill_of_not_mem l a F n _ (Or.inr (le_refl _))

theorem rd_fill (l : List β) (a : Int) (F : Int → β) (n : Nat) (h0 : 0 ≤ a) (hl : (a + n).toNat ≤ l.length) (j : Int) :
    rd (fill l a F n) j = if a ≤ j ∧ j < a + n then F j else rd l j := by
  induction n with
  | zero => rw [if_neg (by omega)]; rfl
  | succ n ih =>
    rw [fill, rd_wr _ _ _ _ (by omega) (by rw [length_fill]; omega), ih (by omega)]
    by_cases h : a + n = j
    · subst h; rw [if_pos rfl, if_pos (by omega)]
    · rw [if_neg h]; exact if_congr (by omega) rfl rfl

/-- `rd_fill` for a loop from 0 and a `Nat` index: no integer arithmetic left to the caller -/
theorem rd_fill_zero (l : List β) (F : Int → β) (n j : Nat) (hl : n ≤ l.length) (hj : j < n) :
    rd (fill l 0 F n) (j : Int) = F j := by
  rw [rd_fill l 0 F n (le_refl _) (by omega), if_pos (by omega)]

end

theorem map_range_shift {β : Type} (f : Nat → β) (i n : Nat) :
    (List.range (n + 1)).map (fun d => f (i + d)) = f i :: (List.range n).map (fun d => f (i + 1 + d)) := by
  rw [List.range_succ_eq_map, List.map_cons, List.map_map]
  congr 1
  apply List.map_congr_left
  intro d _
  show f (i + (d + 1)) = f (i + 1 + d)
  rw [Nat.add_right_comm i 1 d]
  rfl

/-- the zero fluxes of the model below a front, as a loop leaves them -/
theorem map_zero_eq {β : Type} (l : List β) : (l.map fun _ => (0 : ℚ)) = (List.range l.length).map fun _ => 0 := by
  rw [List.map_const', List.map_const', List.length_range]

/-- the cells `i, …, i + n - 1` -/
def seg (l : List ℚ) (i n : Nat) : List ℚ := (List.range n).map (fun (d : Nat) => rd l ((i + d : Nat) : Int))

@[simp] theorem length_seg (l : List ℚ) (i n : Nat) : (seg l i n).length = n := by simp [seg]

theorem getElem_seg (l : List ℚ) (i n d : Nat) (h : d < (seg l i n).length) : (seg l i n)[d] = rd l ((i + d : Nat) : Int) := by
  simp [seg]

theorem seg_ext (l : List ℚ) (i n : Nat) (xs : List ℚ) (hl : xs.length = n)
    (h : ∀ (d : Nat) (hd : d < n), rd l ((i + d : Nat) : Int) = xs[d]'(hl ▸ hd)) : seg l i n = xs :=
  List.ext_getElem (by rw [length_seg, hl]) (fun d _ h2 => by rw [getElem_seg, h d (hl ▸ h2)])

theorem seg_succ (l : List ℚ) (i n : Nat) : seg l i (n + 1) = rd l (i : Int) :: seg l (i + 1) n :=
  map_range_shift (fun (k : Nat) => rd l (k : Int)) i n

theorem seg_snoc (l : List ℚ) (i n : Nat) : seg l i (n + 1) = seg l i n ++ [rd l ((i + n : Nat) : Int)] := by
  unfold seg
  rw [List.range_succ, List.map_append]
  rfl

end Hermes.Imp

namespace Hermes.ImpSoiltemp
open Hermes.Imp

/-- the first `n` entries of a state array as the Go code reads them -/
def vw (l : List ℚ) (n : Nat) : List ℚ := (List.range n).map (fun (j : Nat) => rd l (j : Int))

end Hermes.ImpSoiltemp

namespace Hermes.Imp
open Hermes.ImpSoiltemp (vw)

@[simp] theorem vw_length (l : List ℚ) (n : Nat) : (vw l n).length = n := by simp [vw]

theorem vw_getElem (l : List ℚ) (n j : Nat) (h : j < (vw l n).length) : (vw l n)[j] = rd l (j : Int) := by
  simp [vw]

theorem vw_getElem? (l : List ℚ) (n j : Nat) (h : j < n) : (vw l n)[j]? = some (rd l (j : Int)) := by
  rw [List.getElem?_eq_getElem (by rw [vw_length]; exact h), vw_getElem]

theorem vw_getD (l : List ℚ) (n i : Nat) (h : i < n) : (vw l n).getD i 0 = rd l (i : Int) := by
  rw [List.getD_eq_getElem _ _ (by rw [vw_length]; exact h), vw_getElem]

theorem rd_eq_vw_getD (l : List ℚ) (n : Nat) (z : Int) (h0 : 0 ≤ z) (hn : z < n) : rd l z = (vw l n).getD z.toNat 0 := by
  rw [vw_getD _ _ _ (by omega), Int.toNat_of_nonneg h0]

theorem vw_fill_zero (l : List ℚ) (F : Int → ℚ) (n k : Nat) (hl : n ≤ l.length) (hk : k ≤ n) :
    vw (fill l 0 F n) k = (List.range k).map (fun (j : Nat) => F (j : Int)) :=
  List.map_congr_left fun j hj => rd_fill_zero l F n j hl (Nat.lt_of_lt_of_le (List.mem_range.mp hj) hk)

theorem vw_ext (l : List ℚ) (n : Nat) (xs : List ℚ) (hl : xs.length = n)
    (h : ∀ (j : Nat) (hj : j < n), rd l (j : Int) = xs[j]'(hl ▸ hj)) : vw l n = xs :=
  List.ext_getElem (by rw [vw_length, hl]) (fun j _ h2 => by rw [vw_getElem, h j (hl ▸ h2)])

theorem vw_eq_seg (l : List ℚ) (n : Nat) : vw l n = seg l 0 n := by
  simp only [vw, seg, Nat.zero_add]

theorem vw_succ (l : List ℚ) (n : Nat) : vw l (n + 1) = rd l 0 :: seg l 1 n := by
  rw [vw_eq_seg, seg_succ]; rfl

theorem vw_snoc (l : List ℚ) (n : Nat) : vw l (n + 1) = vw l n ++ [rd l (n : Int)] := by
  rw [vw_eq_seg, vw_eq_seg, seg_snoc, Nat.zero_add]

theorem vw_getLastD (l : List ℚ) (n : Nat) : (vw l (n + 1)).getLastD 0 = rd l (n : Int) := by
  rw [vw_snoc, List.getLastD_concat]

theorem vw_eq_ends (l : List ℚ) (N : Nat) (a b : ℚ) (M : List ℚ) (hN : 1 ≤ N) (ha : rd l 0 = a) (hM : seg l 1 (N - 1) = M)
    (hb : rd l (N : Int) = b) : vw l (N + 1) = a :: (M ++ [b]) := by
  obtain ⟨n, rfl⟩ : ∃ n, N = n + 1 := ⟨N - 1, by omega⟩
  rw [vw_succ, seg_snoc, ha, ← hM, ← hb, Nat.add_sub_cancel, Nat.add_comm 1 n]

/-- `A` is `l` with the cells `i, …, i + xs.length - 1` replaced by `xs` -/
structure Patch (l A : List ℚ) (i : Nat) (xs : List ℚ) : Prop where
  len : A.length = l.length
  inside : ∀ (d : Nat) (h : d < xs.length), rd A ((i + d : Nat) : Int) = xs[d]
  outside : ∀ j : Nat, j < i ∨ i + xs.length ≤ j → rd A (j : Int) = rd l (j : Int)

theorem Patch.nil (l : List ℚ) (i : Nat) : Patch l l i [] where
  len := rfl
  inside := fun d h => absurd h (Nat.not_lt_zero d)
  outside := fun _ _ => rfl

theorem Patch.fill (l : List ℚ) (a : Nat) (F : Int → ℚ) (n : Nat) (hl : a + n ≤ l.length) :
    Patch l (Imp.fill l (a : Int) F n) a ((List.range n).map (fun (d : Nat) => F ((a + d : Nat) : Int))) where
  len := length_fill ..
  inside := by
    intro d hd
    rw [List.length_map, List.length_range] at hd
    rw [rd_fill _ _ _ _ (by omega) (by omega), if_pos (by omega), List.getElem_map, List.getElem_range]
  outside := by
    intro j hj
    rw [List.length_map, List.length_range] at hj
    exact rd_fill_of_not_mem _ _ _ _ _ (by omega)

/-- The step of a cascade: first the cells at `i` were changed (`l` to `B`), then the cells from `i + 1` on were replaced by `xs`
(`B` to `A`), and the second stretch reaches at least as far as the first. -/
theorem Patch.comp {l B A : List ℚ} {i : Nat} {x : ℚ} {ys xs : List ℚ} (h1 : Patch l B i (x :: ys)) (h2 : Patch B A (i + 1) xs)
    (hlen : ys.length ≤ xs.length) : Patch l A i (x :: xs) where
  len := h2.len.trans h1.len
  inside := by
    intro d hd
    cases d with
    | zero =>
      rw [h2.outside (i + 0) (Or.inl (Nat.lt_succ_self i))]
      exact h1.inside 0 (Nat.zero_lt_succ _)
    | succ d =>
      rw [show i + (d + 1) = i + 1 + d from by omega, List.getElem_cons_succ]
      exact h2.inside d (Nat.lt_of_succ_lt_succ hd)
  outside := by
    intro j hj
    rw [List.length_cons] at hj
    rw [h2.outside j (by omega), h1.outside j (by rw [List.length_cons]; omega)]

theorem Patch.extend {l A : List ℚ} {i : Nat} {xs : List ℚ} (h : Patch l A i xs) (k : Nat) :
    Patch l A i (xs ++ seg l (i + xs.length) k) where
  len := h.len
  inside := by
    intro d hd
    by_cases hdx : d < xs.length
    · rw [h.inside d hdx, List.getElem_append_left hdx]
    · rw [List.length_append, length_seg] at hd
      rw [h.outside (i + d) (Or.inr (by omega)), List.getElem_append_right (by omega), getElem_seg, Nat.add_assoc,
        Nat.add_sub_cancel' (by omega)]
  outside := by
    intro j hj
    rw [List.length_append, length_seg] at hj
    exact h.outside j (by omega)

theorem Patch.keep (l : List ℚ) (i : Nat) : Patch l l i [Imp.rd l (i : Int)] := (Patch.nil l i).extend 1

theorem Patch.wr_front {l B : List ℚ} {i : Nat} {xs : List ℚ} (h : Patch l B (i + 1) xs) (x : ℚ) (hi : i < l.length) :
    Patch l (Imp.wr B (i : Int) x) i (x :: xs) where
  len := by rw [length_wr, h.len]
  inside := by
    intro d hd
    cases d with
    | zero => rw [Nat.add_zero, rd_wr_nat B i i x (by rw [h.len]; exact hi), if_pos rfl, List.getElem_cons_zero]
    | succ d =>
      rw [rd_wr_ne _ _ _ _ (by omega), show i + (d + 1) = i + 1 + d from by omega, List.getElem_cons_succ]
      exact h.inside d (Nat.lt_of_succ_lt_succ hd)
  outside := by
    intro j hj
    rw [List.length_cons] at hj
    rw [rd_wr_ne _ _ _ _ (by omega), h.outside j (by omega)]

theorem Patch.wr {l : List ℚ} {i : Nat} (x : ℚ) (hi : i < l.length) : Patch l (Imp.wr l (i : Int) x) i [x] :=
  (Patch.nil l (i + 1)).wr_front x hi

theorem Patch.rd {l A : List ℚ} {i : Nat} {xs : List ℚ} (h : Patch l A i xs) (j : Nat) :
    Imp.rd A (j : Int) = if i ≤ j ∧ j < i + xs.length then xs.getD (j - i) 0 else Imp.rd l (j : Int) := by
  by_cases hj : i ≤ j ∧ j < i + xs.length
  · have hd : j - i < xs.length := by omega
    rw [if_pos hj, List.getD_eq_getElem xs 0 hd, ← h.inside (j - i) hd, Nat.add_sub_cancel' hj.1]
  · rw [if_neg hj]
    exact h.outside j (by omega)

theorem Patch.seg_left {l A : List ℚ} {i n : Nat} {xs ys : List ℚ} (h : Patch l A i (xs ++ ys)) (hn : xs.length = n) :
    seg A i n = xs :=
  seg_ext A i n xs hn fun d hd => by
    rw [h.inside d (by rw [List.length_append]; omega), List.getElem_append_left]

theorem Patch.seg_eq {l A : List ℚ} {i n : Nat} {xs : List ℚ} (h : Patch l A i xs) (hn : xs.length = n) : seg A i n = xs :=
  Patch.seg_left (ys := []) (by rw [List.append_nil]; exact h) hn

theorem Patch.vw_eq {l A xs : List ℚ} {n : Nat} (h : Patch l A 0 xs) (hn : xs.length = n) : vw A n = xs := by
  rw [vw_eq_seg, h.seg_eq hn]

theorem Patch.rd_after {l A : List ℚ} {n : Nat} {xs ys : List ℚ} {y : ℚ} (h : Patch l A 0 (xs ++ y :: ys)) (hn : xs.length = n) :
    Imp.rd A (n : Int) = y := by
  subst hn
  rw [← Nat.zero_add xs.length, h.inside xs.length (by rw [List.length_append, List.length_cons]; omega),
    List.getElem_append_right (Nat.le_refl _)]
  simp only [Nat.sub_self, List.getElem_cons_zero]

end Hermes.Imp
