/- Termination of the schedule reader loops (HermesModel/Readers.lean). Core Lean only. -/
import HermesModel.Readers
namespace Hermes.Readers

theorem nextLine_length (l : List Line) : (nextLine l).2.length ≤ l.length := by
  cases l <;> simp [nextLine]

theorem nextLine_length_lt (l : List Line) (h : l ≠ []) : (nextLine l).2.length < l.length := by
  cases l with
  | nil => exact absurd rfl h
  | cons x r => simp [nextLine]

/-- the line handed out counts among those consumed (an invalid line at the end of the file does not) -/
theorem nextLine_consumes (l : List Line) : (nextLine l).1.toList.length + (nextLine l).2.length ≤ l.length := by
  rcases l with _ | ⟨_ | _, _⟩ <;> simp [nextLine, Nat.add_comm]

/-- fuel: the lines not yet consumed, the current one included -/
theorem inner_terminates (pkt fuel : Nat) (cur : Line) (rest : List Line) (acc : List Rec)
    (h : cur.toList.length + rest.length < fuel) :
    ∃ c r a, inner pkt fuel cur rest acc = some (c, r, a) ∧ r.length ≤ rest.length := by
  fun_induction inner pkt fuel cur rest acc with
  | case1 => omega
  | case2 f rest acc => exact ⟨none, rest, acc, rfl, Nat.le_refl _⟩
  | case3 f rest acc r hid ih =>
    have := nextLine_consumes rest
    obtain ⟨c, r', a, he, hl⟩ := ih (by simp at h; omega)
    exact ⟨c, r', a, he, by omega⟩
  | case4 f rest acc r hid => exact ⟨some r, rest, acc, rfl, Nat.le_refl _⟩

theorem outer_terminates (pkt fuel : Nat) (cur : Line) (rest : List Line) (acc : List Rec)
    (h : cur.toList.length + rest.length + 1 < fuel) : outer pkt fuel cur rest acc ≠ none := by
  fun_induction outer pkt fuel cur rest acc with
  | case1 => omega
  | case2 => simp
  | case3 f rest acc r hi =>
    obtain ⟨c, r', a, he, hl⟩ := inner_terminates pkt f (some r) rest acc (by simp at h ⊢; omega)
    rw [he] at hi; cases hi
  | case4 f rest acc r c rest' acc' hi ih =>
    -- the inner loop has not given lines back, and the next line is taken from what it left
    obtain ⟨c', r', a, he, hl⟩ := inner_terminates pkt f (some r) rest acc (by simp at h ⊢; omega)
    rw [hi] at he ⊢; cases he
    have := nextLine_consumes rest'
    exact ih (by simp at h; omega)

end Hermes.Readers
