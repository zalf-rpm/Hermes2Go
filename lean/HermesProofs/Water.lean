/-
Lemmas about the water model over ℚ (exact arithmetic): conservation of each phase of `Water`
(infiltration cascade, evaporation cascade, overflow pass, capillary rise), the field equations of `step`, and the
list facts they need (`getLastD_zeros`, `getLastD_irrel`).
-/
import HermesProofs.RatInst
import HermesModel.Water
import Mathlib.Tactic.Linarith
import Mathlib.Tactic.Ring

namespace Hermes.Water

theorem zip3_eq_zip : ∀ (a b c : List ℚ), zip3 a b c = a.zip (b.zip c)
  | [], _, _ => rfl
  | _ :: _, [], _ => rfl
  | _ :: _, _ :: _, [] => rfl
  | _ :: as, _ :: bs, _ :: cs => congrArg _ (zip3_eq_zip as bs cs)

/-- water.go:825-831: what a layer with water content `g` and wilting point `m` gives of the demand `t` -/
def limTp (dz g m t : ℚ) : ℚ := if (g - m) * dz < t then (if g < m then 0 else (g - m) * dz) else t

theorem limTp_le (dz g m t : ℚ) : limTp dz g m t ≤ max ((g - m) * dz) 0 := by
  unfold limTp
  split_ifs with h
  · exact le_max_right _ _
  · exact le_max_left _ _
  · exact (not_lt.mp h).trans (le_max_left _ _)

theorem limitTp_zipWith (dz : ℚ) : ∀ (tp wg wmin : List ℚ),
    limitTp dz tp wg wmin = List.zipWith (fun t (p : ℚ × ℚ) => limTp dz p.1 p.2 t) tp (wg.zip wmin)
  | [], _, _ => rfl
  | _ :: _, [], _ => rfl
  | _ :: _, _ :: _, [] => rfl
  | _ :: ts, _ :: gs, _ :: ws => congrArg _ (limitTp_zipWith dz ts gs ws)

theorem water0_zipWith (dz wdt : ℚ) : ∀ (wg tp : List ℚ),
    water0 dz wdt wg tp = List.zipWith (fun g t => g * dz - t * wdt) wg tp
  | [], _ => rfl
  | _ :: _, [] => rfl
  | _ :: gs, _ :: ts => congrArg _ (water0_zipWith dz wdt gs ts)

theorem addAt_modify (c : ℚ) : ∀ (i : ℕ) (l : List ℚ), addAt i c l = l.modify i (· + c)
  | _, [] => by simp [addAt]
  | 0, _ :: _ => by simp [addAt]
  | i + 1, _ :: xs => by simp [addAt, addAt_modify c i xs]

theorem subFrom_eq (c : ℚ) : ∀ (i : Nat) (l : List ℚ), subFrom i c l = l.mapIdx (fun j x => if i ≤ j then x - c else x)
  | _, [] => by simp [subFrom]
  | 0, x :: xs => by simp [subFrom, subFrom_eq c 0 xs, List.mapIdx_cons]
  | i + 1, x :: xs => by simp [subFrom, subFrom_eq c i xs, List.mapIdx_cons]

theorem infil_qdrain_zero (dz : ℚ) (dd : ℕ) (df : ℚ) (l : List (ℚ × ℚ)) (a : ℚ) (k : ℕ) (hk : dd < k) :
    (infil dz dd df a k l).2.2 = 0 := by
  fun_induction infil dz dd df a k l with
  | case1 => rfl
  | case2 => rfl
  | case3 a k _ _ _ _ _ _ _ _ _ ih => rw [if_neg (by omega)]; exact ih (by omega)

theorem getLastD_zeros {β : Type} (l : List β) (x : ℚ) :
    ((0 : ℚ) :: l.map (fun _ => (0 : ℚ))).getLastD x = 0 := by
  induction l generalizing x with
  | nil => rfl
  | cons _ t ih => rw [List.map_cons, List.getLastD_cons, List.getLastD_cons, ← List.getLastD_cons]; exact ih 0

/-- The default of `getLastD` stands for the flux through the top of the first layer of the list (what
leaves an empty list of layers is what entered it); `evap_balance` and `overflow_last` read it the same way. -/
theorem infil_balance (dz : ℚ) (dd : ℕ) (df : ℚ) (l : List (ℚ × ℚ)) (a : ℚ) (k : ℕ) :
    ((infil dz dd df a k l).1).sum + ((infil dz dd df a k l).2.1).getLastD a
        + (infil dz dd df a k l).2.2 = a + (l.map (·.1)).sum := by
  fun_induction infil dz dd df a k l with
  | case1 => simp
  | case2 => rw [getLastD_zeros]; simp; ring
  | case3 a k wa w rest b a' _ aOut qd r ih =>
    simp only [List.sum_cons, List.getLastD_cons, List.map_cons]
    by_cases hk : k = dd
    · have h0 := infil_qdrain_zero dz dd df rest aOut (k + 1) (by omega)
      simp only [hk, if_true, b, a', aOut, qd, r] at *
      linarith
    · simp only [hk, if_false, b, a', aOut, r] at *
      linarith

/-- evaporation cascade: what leaves the layers is the demand minus the part still unmet at the
bottom (`−Q1[N]`). -/
theorem evap_balance (dz wdt : ℚ) (l : List (ℚ × ℚ × ℚ)) (a1 : ℚ) (carry : Option ℚ) :
    ((evap dz wdt a1 carry l).1).sum + a1 + ((evap dz wdt a1 carry l).2.1).getLastD (-a1)
        = (l.map (·.1)).sum := by
  fun_induction evap dz wdt a1 carry l with
  | case1 => simp
  | case2 => rw [getLastD_zeros]; simp; ring
  | case3 _ _ _ _ _ _ _ _ _ ih =>
    simp only [List.sum_cons, List.getLastD_cons, List.map_cons]
    linarith

theorem evap_length (dz wdt : ℚ) (l : List (ℚ × ℚ × ℚ)) (a1 : ℚ) (carry : Option ℚ) :
    ((evap dz wdt a1 carry l).1).length = l.length ∧ ((evap dz wdt a1 carry l).2.1).length = l.length ∧
    ((evap dz wdt a1 carry l).2.2.1).length = l.length := by
  fun_induction evap dz wdt a1 carry l with
  | case1 => simp
  | case2 _ _ _ _ _ rest _ _ restEv =>
    refine ⟨by simp, by simp, ?_⟩
    simp only [restEv]
    split <;> simp
  | case3 _ _ _ _ _ _ _ _ r ih => simp [r, ih.1, ih.2.1, ih.2.2]

theorem evap_fold (dz wdt a1 c wa wmin ev0 : ℚ) (rest : List (ℚ × ℚ × ℚ)) :
    evap dz wdt a1 (some c) ((wa, wmin, ev0) :: rest) = evap dz wdt a1 none ((wa, wmin, ev0 + c) :: rest) := by
  unfold evap
  rfl

theorem infil_length (dz : ℚ) (dd : ℕ) (df : ℚ) (l : List (ℚ × ℚ)) (a : ℚ) (k : ℕ) :
    ((infil dz dd df a k l).1).length = l.length ∧ ((infil dz dd df a k l).2.1).length = l.length := by
  fun_induction infil dz dd df a k l with
  | case1 => simp
  | case2 => simp
  | case3 _ _ _ _ _ _ _ _ _ _ r ih => simp [r, ih.1, ih.2]

theorem overflow_balance (dz : ℚ) (l : List (ℚ × ℚ × ℚ)) (carry : Option ℚ) :
    (((overflow dz carry l).1).map (·.1)).sum + (overflow dz carry l).2.getD 0
        = (l.map (·.1)).sum + carry.getD 0 := by
  fun_induction overflow dz carry l with
  | case1 => simp
  | case2 carry wa0 w q rest wa _ sink r ih =>
    have hwa : wa = wa0 + carry.getD 0 := by cases carry <;> simp [wa]
    simp only [List.map_cons, List.sum_cons, Option.getD_some] at ih ⊢
    linarith
  | case3 carry wa0 w q rest wa _ r ih =>
    have hwa : wa = wa0 + carry.getD 0 := by cases carry <;> simp [wa]
    simp only [List.map_cons, List.sum_cons, Option.getD_none] at ih ⊢
    linarith

theorem overflow_length (dz : ℚ) (l : List (ℚ × ℚ × ℚ)) (carry : Option ℚ) :
    ((overflow dz carry l).1).length = l.length := by
  fun_induction overflow dz carry l with
  | case1 => rfl
  | case2 _ _ _ _ _ _ _ _ r ih => simp [r, ih]
  | case3 _ _ _ _ _ _ _ r ih => simp [r, ih]

theorem overflow_fold (dz c wa0 w q : ℚ) (rest : List (ℚ × ℚ × ℚ)) :
    overflow dz (some c) ((wa0, w, q) :: rest) = overflow dz none ((wa0 + c, w, q) :: rest) := by
  unfold overflow
  rfl

theorem getLastD_irrel {β : Type} : ∀ (l : List β) (x y : β), l ≠ [] → l.getLastD x = l.getLastD y
  | [], _, _, h => absurd rfl h
  | _ :: _, _, _, _ => rfl

theorem overflow_last (dz : ℚ) (l : List (ℚ × ℚ × ℚ)) (carry : Option ℚ) (x : ℚ) :
    (((overflow dz carry l).1).map (·.2)).getLastD x
      = ((l.map (·.2.2)).getLastD (x - carry.getD 0)) + (overflow dz carry l).2.getD 0 := by
  fun_induction overflow dz carry l generalizing x with
  | case1 carry => simp
  | case2 carry wa0 w q rest wa _ sink r ih =>
    simp only [List.map_cons, List.getLastD_cons, r, ih, Option.getD_some]
    ring_nf
  | case3 carry wa0 w q rest wa _ r ih =>
    simp only [List.map_cons, List.getLastD_cons, r, ih, Option.getD_none, sub_zero]

theorem water0_sum (dz wdt : ℚ) : ∀ (wg tp : List ℚ), wg.length = tp.length →
    (water0 dz wdt wg tp).sum = (wg.map (· * dz)).sum - wdt * tp.sum
  | [], [], _ => by simp [water0]
  | g :: gs, t :: ts, h => by
    simp only [water0, List.sum_cons, List.map_cons, water0_sum dz wdt gs ts (Nat.succ.inj h)]
    ring

theorem zip3_map (a b c : List ℚ) (h1 : a.length = b.length) (h2 : a.length = c.length) :
    ((zip3 a b c).map (·.1)) = a ∧ ((zip3 a b c).map (·.2.2)) = c ∧ (zip3 a b c).length = a.length := by
  have hbc : (b.zip c).length = a.length := by rw [List.length_zip, ← h1, ← h2, min_self]
  rw [zip3_eq_zip]
  refine ⟨List.map_fst_zip hbc.ge, ?_, by rw [List.length_zip, hbc, min_self]⟩
  rw [show (fun x : ℚ × ℚ × ℚ => x.2.2) = Prod.snd ∘ Prod.snd from rfl, ← List.map_map, List.map_snd_zip hbc.le,
    List.map_snd_zip (h1 ▸ h2).ge]

theorem addAt_sum (c : ℚ) (l : List ℚ) (i : ℕ) (h : i < l.length) : (addAt i c l).sum = l.sum + c := by
  fun_induction addAt i c l with
  | case1 => simp at h
  | case2 x xs => simp; ring
  | case3 x xs j ih => simp [ih (by simpa using h)]; ring

theorem subFrom_last (c : ℚ) (l : List ℚ) (i : ℕ) (x : ℚ) (h : i < l.length) :
    (subFrom i c l).getLastD x = l.getLastD x - c := by
  have hne : l ≠ [] := List.ne_nil_of_length_pos (Nat.zero_lt_of_lt h)
  rw [subFrom_eq, List.getLastD_eq_getLast?, List.getLastD_eq_getLast?, List.getLast?_mapIdx,
    List.getLast?_eq_some_getLast hne]
  simp only [Option.map_some, Option.getD_some]
  rw [if_pos (by omega)]

theorem capLayer_le (nfk : List ℚ) : capLayer nfk ≤ nfk.length := by
  unfold capLayer
  refine List.foldlRecOn (motive := (· ≤ nfk.length)) _ Nat.max (Nat.zero_le _) fun b hb x hx => Nat.max_le.mpr ⟨hb, ?_⟩
  simp only [List.mem_map, List.mem_filter] at hx
  obtain ⟨p, ⟨hp, _⟩, rfl⟩ := hx
  have := List.snd_lt_of_mem_zipIdx hp
  omega

/-- water.go:934-944: the rise reaches layer `k` (1-based, 0: no layer below 70 % of the available capacity) iff the groundwater
table stands more than 0.9 dm and less than 21 dm below it; the row of the table is the rounded distance, at least 1 -/
theorem capRise_eq (dz wdt grw : ℚ) (caps : List ℚ) (k : ℕ) :
    capRise dz wdt grw caps k =
      if k ≠ 0 ∧ grw + 1 - k < 21 ∧ 0.9 < grw + 1 - k then
        some (caps.getD (Conv.roundNat (if grw + 1 - k < 1 then 1 else grw + 1 - k) - 1) 0 * dz * wdt)
      else none := by
  unfold capRise
  rw [show (Conv.ofNat k : ℚ) = (k : ℚ) from rfl]
  generalize grw + 1 - (k : ℚ) = g
  by_cases hk : k = 0
  · rw [if_pos hk, if_neg (fun h => h.1 hk)]
  · by_cases h21 : g < 21
    · by_cases h9 : (0.9 : ℚ) < g
      · -- the distance is positive: the clamp at 0 (water.go:939-941) does nothing
        have h0 : ¬ g < 0 := fun h => by norm_num at h9; linarith
        simp only [hk, h21, h0, h9, ↓reduceIte, ne_eq, not_false_eq_true, and_self]
      · have h9' : ¬ (0.9 : ℚ) < (if g < 0 then 0 else g) := by
          split_ifs
          · norm_num
          · exact h9
        simp only [hk, h21, h9, h9', ↓reduceIte, and_false]
    · simp only [hk, h21, ↓reduceIte, false_and, and_false]

theorem capRise_some {dz wdt grw : ℚ} {caps : List ℚ} {k : ℕ} {c : ℚ} (h : capRise dz wdt grw caps k = some c) :
    1 ≤ k ∧ ∃ idx, c = caps.getD idx 0 * dz * wdt := by
  rw [capRise_eq, Option.ite_none_right_eq_some] at h
  exact ⟨Nat.pos_of_ne_zero h.1.1, _, (Option.some.inj h.2).symm⟩

/-- the arrays of the state have the `n ≥ 1` entries of the layers (no condition on any value) -/
structure WF (i : In ℚ) (n : ℕ) : Prop where
  pos : 1 ≤ n
  wg : i.wg.length = n
  tp : i.tp.length = n
  w : i.w.length = n
  wmin : i.wmin.length = n
  ev : i.ev.length = n
  nfk : i.nfk.length = n

theorem phaseUptake_fst (i : In ℚ) : (phaseUptake i).1 = if i.first then limitTp i.dz i.tp i.wg i.wmin else i.tp := rfl
theorem phaseUptake_snd (i : In ℚ) : (phaseUptake i).2 = water0 i.dz i.wdt i.wg (phaseUptake i).1 := rfl

theorem phaseUptake_spec (i : In ℚ) (n : ℕ) (h : WF i n) :
    (phaseUptake i).2.length = n ∧
    (phaseUptake i).2.sum = (i.wg.map (· * i.dz)).sum - i.wdt * (phaseUptake i).1.sum := by
  have hl : (phaseUptake i).1.length = n := by
    rw [phaseUptake_fst]
    split_ifs
    · rw [limitTp_zipWith, List.length_zipWith, List.length_zip, h.tp, h.wg, h.wmin, min_self, min_self]
    · exact h.tp
  rw [phaseUptake_snd]
  exact ⟨by rw [water0_zipWith, List.length_zipWith, hl, h.wg, min_self], water0_sum _ _ _ _ (by rw [hl, h.wg])⟩

theorem phaseSurface_wa1 (i : In ℚ) (wa0 : List ℚ) : (phaseSurface i wa0).wa1 =
    if 0 < i.fluss0 then (infil i.dz i.draidep i.draifak (i.fluss0 * i.wdt) 1 (wa0.zip i.w)).1
    else if i.fluss0 < 0 then (evap i.dz i.wdt (-i.fluss0 * i.wdt) none (zip3 wa0 i.wmin i.ev)).1 else wa0 := by
  unfold phaseSurface
  split_ifs <;> rfl

theorem phaseSurface_spec (i : In ℚ) (n : ℕ) (h : WF i n) (wa0 : List ℚ) (hw : wa0.length = n) :
    (phaseSurface i wa0).wa1.length = n ∧ (phaseSurface i wa0).qs.length = n ∧
    (phaseSurface i wa0).wa1.sum + (phaseSurface i wa0).qs.getLastD (phaseSurface i wa0).qTop
        + (phaseSurface i wa0).qdrain = wa0.sum + i.fluss0 * i.wdt := by
  have hpos := h.pos
  unfold phaseSurface
  split_ifs with h1 h2
  · have hzl : (wa0.zip i.w).length = n := by rw [List.length_zip, hw, h.w, min_self]
    have hb := infil_balance i.dz i.draidep i.draifak (wa0.zip i.w) (i.fluss0 * i.wdt) 1
    have hl := infil_length i.dz i.draidep i.draifak (wa0.zip i.w) (i.fluss0 * i.wdt) 1
    rw [List.map_fst_zip (by rw [hw, h.w])] at hb
    exact ⟨hl.1.trans hzl, hl.2.trans hzl, by linarith⟩
  · have hz := zip3_map wa0 i.wmin i.ev (by rw [hw, h.wmin]) (by rw [hw, h.ev])
    have hb := evap_balance i.dz i.wdt (zip3 wa0 i.wmin i.ev) (-i.fluss0 * i.wdt) none
    have hl := evap_length i.dz i.wdt (zip3 wa0 i.wmin i.ev) (-i.fluss0 * i.wdt) none
    rw [hz.1] at hb
    refine ⟨by rw [hl.1, hz.2.2, hw], by rw [hl.2.1, hz.2.2, hw], ?_⟩
    rw [getLastD_irrel _ 0 (-(-i.fluss0 * i.wdt))
      (List.ne_nil_of_length_pos (by rw [hl.2.1, hz.2.2, hw]; exact hpos))]
    linarith
  · have h0 : i.fluss0 = 0 := le_antisymm (not_lt.mp h1) (not_lt.mp h2)
    obtain ⟨x, xs, rfl⟩ := List.exists_cons_of_length_pos (hw ▸ hpos)
    refine ⟨hw, by rw [List.length_map, hw], ?_⟩
    rw [List.map_cons, getLastD_zeros, h0]
    ring

theorem phaseOverflow_spec (i : In ℚ) (n : ℕ) (h : WF i n) (s : Surf ℚ) (h1 : s.wa1.length = n) (h2 : s.qs.length = n) (x : ℚ) :
    (phaseOverflow i s).1.length = n ∧ (phaseOverflow i s).2.1.length = n ∧
    (phaseOverflow i s).1.sum + (phaseOverflow i s).2.1.getLastD x = s.wa1.sum + s.qs.getLastD x := by
  have hz := zip3_map s.wa1 i.w s.qs (by rw [h1, h.w]) (by rw [h1, h2])
  have hb := overflow_balance i.dz (zip3 s.wa1 i.w s.qs) none
  have hl := overflow_length i.dz (zip3 s.wa1 i.w s.qs) none
  have hq := overflow_last i.dz (zip3 s.wa1 i.w s.qs) none x
  rw [hz.1] at hb
  rw [hz.2.1] at hq
  unfold phaseOverflow
  refine ⟨by simp [hl, hz.2.2, h1], by simp [hl, hz.2.2, h1], ?_⟩
  simp only [Option.getD_none, sub_zero] at hb hq
  linarith

theorem phaseCapillary_none (i : In ℚ) (wa2 qs2 : List ℚ) (h : capRise i.dz i.wdt i.grw i.caps (capLayer i.nfk) = none) :
    phaseCapillary i wa2 qs2 = (wa2, qs2) := by
  rw [phaseCapillary, h]

theorem phaseCapillary_some (i : In ℚ) (wa2 qs2 : List ℚ) {c : ℚ}
    (h : capRise i.dz i.wdt i.grw i.caps (capLayer i.nfk) = some c) :
    phaseCapillary i wa2 qs2 = (addAt (capLayer i.nfk - 1) c wa2, subFrom (capLayer i.nfk - 1) c qs2) := by
  rw [phaseCapillary, h]

theorem phaseCapillary_spec (i : In ℚ) (n : ℕ) (h : WF i n) (wa2 qs2 : List ℚ) (h1 : wa2.length = n) (h2 : qs2.length = n)
    (x : ℚ) : (phaseCapillary i wa2 qs2).1.length = n ∧
    (phaseCapillary i wa2 qs2).1.sum + (phaseCapillary i wa2 qs2).2.getLastD x = wa2.sum + qs2.getLastD x := by
  cases hc : capRise i.dz i.wdt i.grw i.caps (capLayer i.nfk) with
  | none => rw [phaseCapillary_none i _ _ hc]; exact ⟨h1, rfl⟩
  | some c =>
    rw [phaseCapillary_some i _ _ hc]
    have hk := (capRise_some hc).1
    have hle := (capLayer_le i.nfk).trans_eq h.nfk
    refine ⟨by rw [addAt_modify, List.length_modify, h1], ?_⟩
    rw [addAt_sum c wa2 _ (by omega), subFrom_last c qs2 _ x (by omega)]
    ring

/-- `surfOf`, `ovfOf`, `capOf`: proof-side names for the `let`s of the model's `step` (`s`, `o`, `c`).
The state after the surface phase of one call -/
noncomputable abbrev surfOf (i : In ℚ) : Surf ℚ := phaseSurface i (phaseUptake i).2

/-- water, interface fluxes and the water pushed below the profile after the overflow pass -/
noncomputable abbrev ovfOf (i : In ℚ) : List ℚ × List ℚ × ℚ := phaseOverflow i (surfOf i)

/-- water and interface fluxes after the capillary rise -/
noncomputable abbrev capOf (i : In ℚ) : List ℚ × List ℚ := phaseCapillary i (ovfOf i).1 (ovfOf i).2.1

theorem step_wg1 (i : In ℚ) : (step i).wg1 = (capOf i).1.map (· / i.dz) := rfl
theorem step_q1 (i : In ℚ) : (step i).q1 = (surfOf i).qTop :: (capOf i).2 := rfl
theorem step_tp (i : In ℚ) : (step i).tp = (phaseUptake i).1 := rfl
theorem step_qdrain (i : In ℚ) : (step i).qdrain = (surfOf i).qdrain := rfl
theorem step_dSicker (i : In ℚ) : (step i).dSicker =
    if 0 < (step i).q1.getD i.outn 0 then (step i).q1.getD i.outn 0 * 10 else 0 := rfl
theorem step_dCapsum (i : In ℚ) : (step i).dCapsum =
    (if 0 < (step i).q1.getD i.outn 0 then 0 else 0 + (step i).q1.getD i.outn 0 * 10) - i.gwauf * 10 * i.wdt := rfl
theorem step_dDraisum (i : In ℚ) : (step i).dDraisum = (step i).qdrain * 10 := rfl

/-- the four phases composed: what `C01_water_step_balance` rests on (water after the capillary rise + flux through
the profile bottom + drain outflow = water before − uptake + surface flux) -/
theorem step_phases (i : In ℚ) (n : ℕ) (h : WF i n) :
    (capOf i).1.length = n ∧
    (capOf i).1.sum + (step i).q1.getLastD 0 + (surfOf i).qdrain
      = (i.wg.map (· * i.dz)).sum - i.wdt * (phaseUptake i).1.sum + i.fluss0 * i.wdt := by
  obtain ⟨hu2, hu3⟩ := phaseUptake_spec i n h
  obtain ⟨hs1, hs2, hs3⟩ := phaseSurface_spec i n h (phaseUptake i).2 hu2
  obtain ⟨ho1, ho2, ho3⟩ := phaseOverflow_spec i n h (surfOf i) hs1 hs2 (surfOf i).qTop
  obtain ⟨hc1, hc3⟩ := phaseCapillary_spec i n h _ _ ho1 ho2 (surfOf i).qTop
  exact ⟨hc1, by rw [step_q1, List.getLastD_cons, hc3, ho3, hs3, hu3]⟩

end Hermes.Water
