/-
Lemmas about the model of the potential-ET part of `Evatra` (HermesModel/EvatraPet.lean) over ℚ.
The values of the transcendental calls are free variables; what is assumed about them is always an
explicit hypothesis.
-/
import HermesProofs.Evatra
import HermesProofs.Decimals
import HermesModel.EvatraPet
import Mathlib.Tactic.Linarith
import Mathlib.Tactic.NormNum
import Mathlib.Tactic.Positivity

namespace Hermes.EvatraPet
open Hermes.Evatra

theorem floor0_eq_max (x : ℚ) : floor0 x = max 0 x := by
  rw [max_comm]; exact (max_def_lt x 0).symm

theorem floor0_nonneg (x : ℚ) : 0 ≤ floor0 x := by
  rw [floor0_eq_max]; exact le_max_left _ _

/-- every branch returns a month number; no condition of the table is looked at (splitting the twelve
conditions on `tag` is very slow to check) -/
theorem fkm_range (tag : ℕ) : 1 ≤ fkm tag ∧ fkm tag ≤ 12 := by
  unfold fkm
  iterate 11 refine ite_of_both (fun m => 1 ≤ m ∧ m ≤ 12) _ (by decide) ?_
  decide

theorem wind2m_ge (wind windhi logW : ℚ) : 0.5 ≤ wind2m wind windhi logW := by
  simp only [wind2m, ← max_def_lt]
  exact le_max_right _ _

theorem limit_range (v : ℚ) : -1 ≤ limit v 1 (-1) ∧ limit v 1 (-1) ≤ 1 := by
  unfold limit
  split_ifs with h1 h2
  · norm_num
  · norm_num
  · exact ⟨not_lt.1 h2, not_lt.1 h1⟩

theorem pi_pos : (0 : ℚ) < pi := by unfold pi; norm_num

theorem dayLength_dl (t : Tr ℚ) : (dayLength t).dl = 12.0 * (pi + 2.0 * t.asDL) / pi := by
  unfold dayLength; simp only; split_ifs <;> rfl

theorem dayLength_dle (t : Tr ℚ) : (dayLength t).dle = 12.0 * (pi + 2.0 * t.asDLE) / pi := by
  unfold dayLength; simp only; split_ifs <;> rfl

theorem hours_range (a : ℚ) (h0 : -(pi / 2) ≤ a) (h1 : a ≤ pi / 2) :
    0 ≤ 12.0 * (pi + 2.0 * a) / pi ∧ 12.0 * (pi + 2.0 * a) / pi ≤ 24 := by
  rw [lit2]
  constructor
  · exact div_nonneg (mul_nonneg (by norm_num) (by linarith)) pi_pos.le
  · rw [div_le_iff₀ pi_pos]
    linarith

theorem dle_le_dl (t : Tr ℚ) (h : t.asDLE ≤ t.asDL) : (dayLength t).dle ≤ (dayLength t).dl := by
  rw [dayLength_dl, dayLength_dle, lit2]
  apply div_le_div_of_nonneg_right _ pi_pos.le
  linarith

theorem turc_linear (crop : Bool) (rad sund temp kcoa kc : ℚ) (s : Sol ℚ) :
    turc crop rad sund temp kcoa kc s = turc crop rad sund temp kcoa 1 s * kc := by
  unfold turc
  split_ifs <;> simp only [mul_one] <;> exact mul_right_comm _ _ _

theorem deltsat_pos (eT pT2 : ℚ) (he : 0 < eT) (hp : 0 < pT2) : 0 < deltsat eT pT2 := by
  unfold deltsat
  positivity

theorem psych_pos (pAtm : ℚ) (h : 0 < pAtm) : 0 < psych pAtm := by
  unfold psych
  positivity

/-- −37500 m is the zero of the factor 0.75 + 2·10⁻⁵·ALTI of RS0 -/
theorem rs0_pos (alti ext : ℚ) (ha : -37500 < alti) (he : 0 < ext) : 0 < rs0 alti ext :=
  mul_pos (by linarith) he

theorem penmanDen_pos (d ps rsurf wind : ℚ) (hd : 0 < d) (hps : 0 < ps) (hr : 0 ≤ rsurf) (hw : 0 ≤ wind) :
    0 < penmanDen d ps rsurf wind := by
  unfold penmanDen
  positivity

theorem satP_pos (a b : ℚ) (ha : 0 < a) (hb : 0 < b) : 0 < satP a b := by
  unfold satP
  positivity

theorem satdefOf_nonneg (i : PIn ℚ) (t : Tr ℚ) (ha : 0 < t.eTmin) (hb : 0 < t.eTmax) (hr : i.rh ≤ 100) :
    0 ≤ satdefOf i t :=
  mul_nonneg (satP_pos _ _ ha hb).le (sub_nonneg.2 ((div_le_one (by norm_num)).2 (hr.trans (by norm_num))))

theorem stoAmax_ge (i : PIn ℚ) (t : Tr ℚ) (s : Sol ℚ) : 0.1 ≤ stoAmax i t s := by
  simp only [stoAmax, ← max_def_lt]
  exact le_max_right _ _

theorem stoEff_pos (co2meth : ℕ) (co2 p2T : ℚ)
    (h : co2meth = 1 → 0 < p2T ∧ 17.5 * p2T < co2) : 0 < stoEff co2meth co2 p2T := by
  unfold stoEff
  split_ifs with h1
  · obtain ⟨hp, hc⟩ := h h1
    have hco2 : 0 < co2 := (mul_pos (by norm_num) hp).trans hc
    exact mul_pos (div_pos (sub_pos.2 hc) (by positivity)) (by norm_num)
  · norm_num

/-- What the positivity of the canopy resistance rests on: positive crop constants and CO2, a
non-negative saturation deficit and sunshine duration, a day on which the effective day is not
longer than the astronomical one, the clear-day radiation and the sine of the noon elevation are
positive when the sun rises above 8°, **CO2 above the compensation point 17.5·2^((T−10)/10) in the
first CO2 method**, `log x ≥ 0` for `x ≥ 1`, `0 < exp(−1.152) < 1`, `0 ≤ exp x < 1` for `x < 0`. -/
structure StomatOk (i : PIn ℚ) (t : Tr ℚ) (s : Sol ℚ) (satdef : ℚ) : Prop where
  alph : 0 < i.alph
  co2 : 0 < i.co2
  satbeta : 0 < i.satbeta
  satdef : 0 ≤ satdef
  sund : 0 ≤ i.sund
  dl : s.dle ≤ s.dl
  drc : 0 < s.dle → 0 < s.drc
  ssl : 0 < s.dle → 0 < t.sSsl ∧ t.sSsl ≤ 1
  comp : i.co2meth = 1 → 0 < t.p2T ∧ 17.5 * t.p2T < i.co2
  logX : 1 ≤ (photo i t s).xArg → 0 ≤ t.logX
  logY : 1 ≤ (photo i t s).yArg → 0 ≤ t.logY
  eGrass : 0 < t.eGrass ∧ t.eGrass < 1
  eC : saturArg (photo i t s).phc3 (photo i t s).phc4 < 0 → t.eC < 1
  eO : saturArg (photo i t s).pho3 (photo i t s).phc4 < 0 → t.eO < 1

theorem photo_amax (i : PIn ℚ) (t : Tr ℚ) (s : Sol ℚ) : (photo i t s).amax = stoAmax i t s := by
  unfold photo; rfl

theorem stoAmax_pos (i : PIn ℚ) (t : Tr ℚ) (s : Sol ℚ) : 0 < stoAmax i t s :=
  lt_of_lt_of_le (by norm_num) (stoAmax_ge i t s)

section
variable (i : PIn ℚ) (t : Tr ℚ) (s : Sol ℚ) {satdef : ℚ} (h : StomatOk i t s satdef)
include h

theorem photo_effe_pos : 0 < (photo i t s).effe :=
  mul_pos (by norm_num) (stoEff_pos i.co2meth i.co2 t.p2T h.comp)

variable (hd : 0 < s.dle)
include hd

theorem five_sub_ssl_pos : 0 < 5.0 - t.sSsl := sub_pos.2 ((h.ssl hd).2.trans_lt (by norm_num))

theorem photo_xArg_ge : 1 ≤ (photo i t s).xArg ∧ 1 ≤ (photo i t s).yArg :=
  ⟨le_add_of_nonneg_right (lightArg_nonneg (by norm_num) (h.drc hd).le hd (photo_effe_pos i t s h).le (h.ssl hd).1
      (stoAmax_pos i t s)),
   le_add_of_nonneg_right (lightArg_nonneg (by norm_num) (h.drc hd).le hd (photo_effe_pos i t s h).le
      (five_sub_ssl_pos i t s h hd) (stoAmax_pos i t s))⟩

theorem photo_z_nonneg : 0 ≤ (photo i t s).z :=
  lightArg_nonneg (c := 0.2) (q := 5.0) (by norm_num) (h.drc hd).le hd (photo_effe_pos i t s h).le (by norm_num)
    (stoAmax_pos i t s)

theorem photo_pos : 0 < (photo i t s).phc3 ∧ 0 < (photo i t s).phc4 ∧ 0 < (photo i t s).pho3 := by
  have hx := photo_xArg_ge i t s h hd
  have ha := (stoAmax_pos i t s).le
  have hg : 0 < 1 - t.eGrass := sub_pos.2 h.eGrass.2
  have h1 := closure_nonneg (h.ssl hd).1.le ha hd.le (h.logX hx.1)
  have h2 := closure_nonneg (five_sub_ssl_pos i t s h hd).le ha hd.le (h.logY hx.2)
  have h3 := closure_nonneg (q := 5.0) (by norm_num) ha hd.le (photo_z_nonneg i t s h hd)
  -- PHCH = 0.95·(…) + 20.5 and PHOH = 0.9935·(…) + 1.1 over non-negative closures
  exact ⟨mul_pos (add_pos_of_nonneg_of_pos (mul_nonneg (by norm_num) (add_nonneg h1 h2)) (by norm_num)) hg,
    mul_pos (mul_pos (lt_of_lt_of_le hd h.dl) (by norm_num)) (stoAmax_pos i t s),
    mul_pos (add_pos_of_nonneg_of_pos (mul_nonneg (by norm_num) h3) (by norm_num)) hg⟩

end

theorem petRaw_penman (i : PIn ℚ) (t : Tr ℚ) (h : i.meth = 3) : petRaw i t = penman i.crop i t (dayLength t) := by
  unfold petRaw
  cases i.crop <;> simp [h]

theorem saturArg_neg (p3 p4 : ℚ) (h3 : 0 < p3) (h4 : 0 < p4) : saturArg p3 p4 < 0 := by
  simp only [saturArg, ← max_def_lt, ← min_def_lt']
  exact div_neg_of_neg_of_pos (neg_neg_of_pos (lt_max_of_lt_left h3)) (lt_min h4 h3)

theorem satur_pos (p3 p4 e : ℚ) (h3 : 0 < p3) (h4 : 0 < p4) (he : e < 1) : 0 < satur p3 p4 e := by
  simp only [satur, ← min_def_lt']
  exact mul_pos (lt_min h4 h3) (sub_pos.2 he)

theorem dtga_pos (i : PIn ℚ) (s : Sol ℚ) (dgac dgao : ℚ) (hc : 0 < dgac) (ho : 0 < dgao) (hd : 0 < s.dle)
    (hs : 0 ≤ i.sund) : 0 < (dtga i s dgac dgao).1 := by
  simp only [dtga, ← max_def_lt, ← min_def_lt']
  split_ifs
  · -- sunshine weighting: the weight is min(SUND, DLE)/DLE ∈ [0, 1]
    exact convex_pos ho hc (div_nonneg (le_min hs hd.le) hd.le) ((div_le_one hd).2 (min_le_right _ _))
  · -- overcast fraction: clamped to [0, 1]
    exact convex_pos hc ho (le_max_right _ _) (max_le (min_le_right _ _) zero_le_one)

theorem dtga_sund_le (i : PIn ℚ) (s : Sol ℚ) (dgac dgao : ℚ) : (dtga i s dgac dgao).2.1 ≤ i.sund := by
  simp only [dtga, ← max_def_lt, ← min_def_lt']
  split_ifs
  · exact min_le_left _ _
  · exact le_refl _

theorem rstomOf_pos (alph co2 satdef satbeta dtg : ℚ) (ha : 0 < alph) (hc : 0 < co2) (hs : 0 ≤ satdef)
    (hb : 0 < satbeta) (hd : 0 < dtg) : 0 < rstomOf alph co2 satdef satbeta dtg := by
  unfold rstomOf
  positivity

end Hermes.EvatraPet
