/-
The dispatcher transition system (HermesModel/Dispatch.lean): termination measure, invariant, progress, and the
executable successor enumeration being exactly `Step`.  Core Lean only.
-/
import HermesModel.Dispatch

namespace Hermes.Dispatch

variable {Line Result : Type}

def weight : Phase → Nat
  | .computing => 3
  | .sendLog => 2
  | .sendResult => 1

/-- bounds the transitions still ahead: 4 per pending line (start, compute, log, result), `weight` per active job, 1 for `die` -/
def measure (s : State Line Result) : Nat :=
  4 * s.pending.length + (s.active.map fun j => weight j.phase).sum + (if s.dead then 0 else 1)

theorem weight_sendPhase_lt (M : Cfg Line Result) (r : Result) : weight (sendPhase M r) < 3 := by
  unfold sendPhase; split <;> simp [weight]

theorem step_measure {M : Cfg Line Result} {s s' : State Line Result} (h : Step M s s') :
    measure s' < measure s := by
  have w3 : weight Phase.computing = 3 := rfl
  have w2 : weight Phase.sendLog = 2 := rfl
  have w1 : weight Phase.sendResult = 1 := rfl
  cases h with
  | start i l rest hd hp hlt => simp [measure, hp, hd, w3]; omega
  | compute pre post j r hd ha hph hr =>
    have := weight_sendPhase_lt M r
    simp [measure, ha, hd, hph, w3]; omega
  | die pre post j hd ha hph hr => simp [measure, hd]
  | recvLog pre post j hd ha hph hrc => simp [measure, ha, hd, hph, w2, w1]
  | recvResult pre post j r hd ha hph hr hrc => simp [measure, ha, hd, hph, w1]

theorem exec_bound {M : Cfg Line Result} {s s' : State Line Result} {n : Nat} (h : Exec M s n s') :
    n + measure s' ≤ measure s := by
  induction h with
  | refl s => simp
  | step hs _ ih => have := step_measure hs; omega

theorem measure_init (sel : List (Nat × Line)) :
    measure (init sel : State Line Result) = 4 * sel.length + 1 := by
  simp [measure, init]

theorem exec_trans {M : Cfg Line Result} {a b c : State Line Result} {n m : Nat}
    (h₁ : Exec M a n b) (h₂ : Exec M b m c) : Exec M a (n + m) c := by
  induction h₁ with
  | refl s => simpa using h₂
  | @step s s' s'' k hs _ ih =>
    have := Exec.step hs (ih h₂)
    have e : k + 1 + m = k + m + 1 := by omega
    rw [e]; exact this

-- the tag of a finished entry, of a job, of a pending line: (id, outcome of the line's run)
def finTag (p : Nat × Result) : Nat × Option Result := (p.1, some p.2)
def jobTag (M : Cfg Line Result) (j : Job Line) : Nat × Option Result := (j.id, M.run j.line)
def lineTag (M : Cfg Line Result) (p : Nat × Line) : Nat × Option Result := (p.1, M.run p.2)

structure Inv (M : Cfg Line Result) (sel : List (Nat × Line)) (s : State Line Result) : Prop where
  alive : s.dead = false
  count : s.activeRuns = s.active.length
  bound : s.activeRuns ≤ M.conc
  perm : List.Perm (s.finished.map finTag ++ (s.active.map (jobTag M) ++ s.pending.map (lineTag M)))
            (sel.map (lineTag M))
  summ : s.errSummary = s.finished.filter (fun p => M.failed p.2)
  sres : s.summaryResult = if s.finished.isEmpty then none else some s.errSummary

theorem inv_init (M : Cfg Line Result) (sel : List (Nat × Line)) : Inv M sel (init sel) :=
  ⟨rfl, rfl, Nat.zero_le _, by simp [init], rfl, rfl⟩

def NoFatal (M : Cfg Line Result) (sel : List (Nat × Line)) : Prop :=
  ∀ p ∈ sel, ∃ r, M.run p.2 = some r

theorem mem_map_lineTag {M : Cfg Line Result} {sel : List (Nat × Line)} {i : Nat} {o : Option Result}
    (h : (i, o) ∈ sel.map (lineTag M)) : ∃ l, (i, l) ∈ sel ∧ M.run l = o := by
  obtain ⟨⟨_, l⟩, hq, e⟩ := List.mem_map.mp h
  cases e
  exact ⟨l, hq, rfl⟩

theorem Inv.run_some {M : Cfg Line Result} {sel : List (Nat × Line)} {s : State Line Result}
    (h : Inv M sel s) (hok : NoFatal M sel) {j : Job Line} (hj : j ∈ s.active) :
    ∃ r, M.run j.line = some r := by
  have hm : jobTag M j ∈ sel.map (lineTag M) :=
    h.perm.mem_iff.mp (List.mem_append_right _ (List.mem_append_left _ (List.mem_map_of_mem hj)))
  obtain ⟨l, hl, e⟩ := mem_map_lineTag hm
  rw [← e]
  exact hok _ hl

theorem filter_append_singleton {α : Type} (p : α → Bool) (l : List α) (a : α) :
    (l ++ [a]).filter p = if p a then l.filter p ++ [a] else l.filter p := by
  rw [List.filter_append]
  by_cases h : p a <;> simp [h]

theorem Inv.of_rephase {M : Cfg Line Result} {sel : List (Nat × Line)} {s : State Line Result} (h : Inv M sel s)
    {pre post : List (Job Line)} {j : Job Line} (ha : s.active = pre ++ j :: post) (ph : Phase) (logs : List Nat) :
    Inv M sel { s with active := pre ++ { j with phase := ph } :: post, logs := logs } := by
  refine ⟨h.alive, ?_, h.bound, ?_, h.summ, h.sres⟩
  · rw [h.count, ha]; simp
  · have := h.perm
    rw [ha] at this
    simpa [jobTag, List.map_append] using this

theorem step_inv {M : Cfg Line Result} {sel : List (Nat × Line)} {s s' : State Line Result}
    (hok : NoFatal M sel) (h : Inv M sel s) (hs : Step M s s') : Inv M sel s' := by
  cases hs with
  | start i l rest hd hp hlt =>
    refine ⟨h.alive, ?_, ?_, ?_, h.summ, h.sres⟩
    · simp [h.count]
    · show s.activeRuns + 1 ≤ M.conc; omega
    · have := h.perm
      rw [hp] at this
      simpa [jobTag, lineTag, List.map_append, List.append_assoc] using this
  | compute pre post j r hd ha hph hr => exact h.of_rephase ha _ s.logs
  | die pre post j hd ha hph hr =>
    obtain ⟨r, hr'⟩ := h.run_some hok (show j ∈ s.active by rw [ha]; simp)
    rw [hr] at hr'; cases hr'
  | recvLog pre post j hd ha hph hrc => exact h.of_rephase ha _ _
  | recvResult pre post j r hd ha hph hr hrc =>
    have hlen : s.active.length = (pre ++ post).length + 1 := by rw [ha]; simp; omega
    refine ⟨h.alive, ?_, ?_, ?_, ?_, ?_⟩
    · show s.activeRuns - 1 = (pre ++ post).length
      rw [h.count, hlen]; rfl
    · show s.activeRuns - 1 ≤ M.conc
      have := h.bound; omega
    · refine List.Perm.trans ?_ h.perm
      rw [ha]
      have e : jobTag M j = finTag (j.id, r) := by simp [jobTag, finTag, hr]
      simp only [List.map_append, List.map_cons, List.map_nil, List.append_assoc, e]
      exact List.Perm.append_left _ (List.perm_middle (l₁ := pre.map (jobTag M))).symm
    · show addSummary M s.errSummary j.id r = (s.finished ++ [(j.id, r)]).filter (fun p => M.failed p.2)
      rw [filter_append_singleton, ← h.summ]
      rfl
    · show some (addSummary M s.errSummary j.id r) =
        if (s.finished ++ [(j.id, r)]).isEmpty then none else some (addSummary M s.errSummary j.id r)
      simp

theorem exec_inv {M : Cfg Line Result} {sel : List (Nat × Line)} {s s' : State Line Result} {n : Nat}
    (hok : NoFatal M sel) (he : Exec M s n s') (h : Inv M sel s) : Inv M sel s' := by
  induction he with
  | refl s => exact h
  | step hs _ ih => exact ih (step_inv hok h hs)

theorem progress {M : Cfg Line Result} {sel : List (Nat × Line)} {s : State Line Result}
    (hc : 1 ≤ M.conc) (hok : NoFatal M sel) (h : Inv M sel s) (hnf : ¬ Final s) :
    ∃ s', Step M s s' := by
  -- while the dispatcher is receiving, the first active run can take its next transition
  have recv : s.active ≠ [] → receiving M s = true → ∃ s', Step M s s' := by
    intro hne hrc
    cases ha : s.active with
    | nil => exact absurd ha hne
    | cons j post =>
      have hj : j ∈ s.active := by rw [ha]; simp
      have ha' : s.active = [] ++ j :: post := ha
      cases hph : j.phase with
      | computing =>
        obtain ⟨r, hr⟩ := h.run_some hok hj
        exact ⟨_, Step.compute s [] post j r h.alive ha' hph hr⟩
      | sendLog => exact ⟨_, Step.recvLog s [] post j h.alive ha' hph hrc⟩
      | sendResult =>
        obtain ⟨r, hr⟩ := h.run_some hok hj
        exact ⟨_, Step.recvResult s [] post j r h.alive ha' hph hr hrc⟩
  cases hp : s.pending with
  | nil =>
    -- no line left and not final: runs are outstanding
    have hne : s.active ≠ [] := fun ha => hnf ⟨hp, ha⟩
    have : 0 < s.activeRuns := by rw [h.count]; exact List.length_pos_iff.mpr hne
    exact recv hne (by simp [receiving, hp, this])
  | cons p rest =>
    rcases Nat.lt_or_ge s.activeRuns M.conc with hlt | hge
    · exact ⟨_, Step.start s p.1 p.2 rest h.alive hp hlt⟩
    · -- all slots taken, and there is at least one slot
      have heq : s.activeRuns = M.conc := Nat.le_antisymm h.bound hge
      have hne : s.active ≠ [] := fun ha => by
        have := h.count; rw [ha] at this; simp at this; omega
      exact recv hne (by simp [receiving, hp, heq])

def Stuck (M : Cfg Line Result) (s : State Line Result) : Prop := ∀ s', ¬ Step M s s'

/-- a maximal execution ends final, with every selected line finished once with the outcome of its own run (and `Inv`: the summary) -/
theorem maximal {M : Cfg Line Result} {sel : List (Nat × Line)} {s : State Line Result} {n : Nat}
    (hc : 1 ≤ M.conc) (hok : NoFatal M sel) (he : Exec M (init sel) n s) (hst : Stuck M s) :
    Inv M sel s ∧ Final s ∧ List.Perm (s.finished.map finTag) (sel.map (lineTag M)) := by
  have h := exec_inv hok he (inv_init M sel)
  have hf : Final s := Classical.byContradiction fun hnf =>
    (progress hc hok h hnf).elim fun s' hs => hst s' hs
  have hp := h.perm
  rw [hf.1, hf.2] at hp
  exact ⟨h, hf, by simpa using hp⟩

theorem finished_ids {M : Cfg Line Result} {sel : List (Nat × Line)} {l : List (Nat × Result)}
    (h : List.Perm (l.map finTag) (sel.map (lineTag M))) : List.Perm (l.map Prod.fst) (sel.map Prod.fst) := by
  simpa [List.map_map, Function.comp_def, finTag, lineTag] using h.map Prod.fst

/-- inverse of `finTag` on its image -/
def unTag (p : Nat × Option Result) : Option (Nat × Result) := p.2.map fun r => (p.1, r)

theorem filterMap_unTag (l : List (Nat × Result)) : (l.map finTag).filterMap unTag = l := by
  rw [List.filterMap_map]
  exact List.filterMap_some

theorem perm_of_perm_finTag {l₁ l₂ : List (Nat × Result)}
    (h : List.Perm (l₁.map finTag) (l₂.map finTag)) : List.Perm l₁ l₂ := by
  have := h.filterMap unTag
  rwa [filterMap_unTag, filterMap_unTag] at this

theorem mem_splits {α : Type} (l : List α) (pre : List α) (x : α) (post : List α) :
    (pre, x, post) ∈ splits l ↔ l = pre ++ x :: post := by
  induction l generalizing pre with
  | nil => simp [splits]
  | cons a l ih =>
    simp only [splits, List.mem_cons, List.mem_map, Prod.mk.injEq, Prod.exists, List.cons_eq_append_iff]
    constructor
    · rintro (⟨rfl, rfl, rfl⟩ | ⟨p, y, q, ht, rfl, rfl, rfl⟩)
      · exact Or.inl ⟨rfl, rfl⟩
      · exact Or.inr ⟨p, rfl, (ih p).mp ht⟩
    · rintro (⟨rfl, h⟩ | ⟨p, rfl, h⟩)
      · cases h; exact Or.inl ⟨rfl, rfl, rfl⟩
      · exact Or.inr ⟨p, x, post, (ih p).mpr h, rfl, rfl, rfl⟩

theorem mem_successors_iff (M : Cfg Line Result) (s s' : State Line Result) :
    s' ∈ successors M s ↔ Step M s s' := by
  constructor
  · intro h
    unfold successors at h
    split at h
    · cases h
    · rename_i hd
      rw [Bool.not_eq_true] at hd
      rcases List.mem_append.mp h with h | h
      · unfold startSucc at h
        split at h
        · cases h
        · rename_i i l rest hp
          split at h
          · rw [List.mem_singleton.mp h]; exact Step.start s i l rest hd hp ‹_›
          · cases h
      · obtain ⟨⟨pre, j, post⟩, ht, hj⟩ := List.mem_filterMap.mp h
        have ha := (mem_splits _ _ _ _).mp ht
        simp only [jobSucc] at hj
        split at hj
        · cases hj; exact Step.compute s pre post j _ hd ha ‹_› ‹_›
        · cases hj; exact Step.die s pre post j hd ha ‹_› ‹_›
        · split at hj
          · cases hj; exact Step.recvLog s pre post j hd ha ‹_› ‹_›
          · cases hj
        · split at hj
          · cases hj; exact Step.recvResult s pre post j _ hd ha ‹_› ‹_› ‹_›
          · cases hj
        · cases hj
  · intro h
    have job : ∀ pre j post, s.dead = false → s.active = pre ++ j :: post →
        jobSucc M s (pre, j, post) = some s' → s' ∈ successors M s := by
      intro pre j post hd ha hj
      rw [successors, if_neg (by simp [hd])]
      exact List.mem_append_right _ (List.mem_filterMap.mpr ⟨(pre, j, post), (mem_splits _ _ _ _).mpr ha, hj⟩)
    cases h with
    | start i l rest hd hp hlt => simp [successors, startSucc, hp, hlt, hd]
    | compute pre post j r hd ha hph hr => exact job pre j post hd ha (by simp [jobSucc, hph, hr])
    | die pre post j hd ha hph hr => exact job pre j post hd ha (by simp [jobSucc, hph, hr])
    | recvLog pre post j hd ha hph hrc => exact job pre j post hd ha (by simp [jobSucc, hph, hrc])
    | recvResult pre post j r hd ha hph hr hrc => exact job pre j post hd ha (by simp [jobSucc, hph, hr, hrc])

/-- The driver's schedule runner only takes real transitions. -/
theorem runSchedule_exec (M : Cfg Line Result) (cs : List Nat) (s : State Line Result) :
    ∃ n, Exec M s n (runSchedule M s cs) := by
  induction cs generalizing s with
  | nil => exact ⟨0, Exec.refl s⟩
  | cons c cs ih =>
    unfold runSchedule
    cases hsucc : (successors M s)[c % (successors M s).length]? with
    | none => exact ⟨0, Exec.refl s⟩
    | some t =>
      simp only
      have hmem : t ∈ successors M s := List.mem_of_getElem? hsucc
      obtain ⟨n, hn⟩ := ih t
      exact ⟨n + 1, Exec.step ((mem_successors_iff M s _).mp hmem) hn⟩

/-- lines are numbers; a run succeeds iff its line is even; concurrency 2 -/
def exCfg : Cfg Nat Bool := { run := fun l => some (l % 2 == 0), failed := fun r => !r, conc := 2 }

/-- valid lines and one (99) whose run ends in log.Fatal (`none`); concurrency 1 -/
def fatalCfg : Cfg Nat Bool := { run := fun l => if l = 99 then none else some true, failed := fun r => !r, conc := 1 }

end Hermes.Dispatch
