/-
Lemmas about the soil-temperature model over ℚ.  For a diffusion number `r` in [0, 1/2] the explicit
node update has the non-negative weights `1 − 2r, r, r`: it is monotone and fixes constants.  One
preservation theorem carries any relation that the node update, the accumulation and the mean respect
through the 24 sub-steps of a day; `≤` gives the comparison principle, "lies in [lo, hi]" the discrete
maximum principle.  The diffusion number is in [0, 1/2] for the admissible densities.
-/
import HermesProofs.RatInst
import HermesModel.SoilTemp
import Mathlib.Tactic.Linarith
import Mathlib.Tactic.Ring
import Mathlib.Tactic.NormNum
import Mathlib.Tactic.Positivity

namespace Hermes.SoilTemp

def Within (lo hi : ℚ) (l : List ℚ) : Prop := ∀ x ∈ l, lo ≤ x ∧ x ≤ hi

def Stable (dt dz2 : ℚ) (as : List ℚ) : Prop :=
  ∀ a ∈ as, 0 ≤ diffNum a dt dz2 ∧ diffNum a dt dz2 ≤ 1 / 2

theorem within_mono {lo hi lo' hi' : ℚ} {l : List ℚ} (h : Within lo hi l) (h1 : lo' ≤ lo) (h2 : hi ≤ hi') :
    Within lo' hi' l := fun x hx => ⟨le_trans h1 (h x hx).1, le_trans (h x hx).2 h2⟩

/-- pointwise `≤` of two lists of the same length -/
def LeL : List ℚ → List ℚ → Prop
  | [], [] => True
  | x :: xs, y :: ys => x ≤ y ∧ LeL xs ys
  | _, _ => False

theorem leL_cons {x y : ℚ} {xs ys : List ℚ} : LeL (x :: xs) (y :: ys) ↔ x ≤ y ∧ LeL xs ys := Iff.rfl

theorem leL_nil : LeL [] [] := trivial

theorem leL_iff : ∀ {a b : List ℚ}, LeL a b ↔ List.Forall₂ (· ≤ ·) a b
  | [], [] => by simp [leL_nil]
  | [], _ :: _ => by simp [LeL]
  | _ :: _, [] => by simp [LeL]
  | x :: xs, y :: ys => by rw [leL_cons, List.forall₂_cons, leL_iff]

-- a predicate on one list is a relation between the list and itself that ignores its second side
theorem within_iff {lo hi : ℚ} {l : List ℚ} :
    Within lo hi l ↔ List.Forall₂ (fun x _ => lo ≤ x ∧ x ≤ hi) l l :=
  (List.forall₂_same (Rₐ := fun x _ => lo ≤ x ∧ x ≤ hi)).symm

theorem node_eq (a dt dz2 tm t tp : ℚ) :
    node a dt dz2 tm t tp
      = (1 - 2 * diffNum a dt dz2) * t + diffNum a dt dz2 * tp + diffNum a dt dz2 * tm := by
  unfold node diffNum; ring

theorem stencil_nonneg {r x y z : ℚ} (hr : 0 ≤ r ∧ r ≤ 1 / 2) (hx : 0 ≤ x) (hy : 0 ≤ y) (hz : 0 ≤ z) :
    0 ≤ (1 - 2 * r) * x + r * y + r * z :=
  add_nonneg (add_nonneg (mul_nonneg (by linarith [hr.2]) hx) (mul_nonneg hr.1 hy)) (mul_nonneg hr.1 hz)

theorem node_mono {a dt dz2 : ℚ} (hr : 0 ≤ diffNum a dt dz2 ∧ diffNum a dt dz2 ≤ 1 / 2) {tm t tp tm' t' tp' : ℚ}
    (h1 : tm ≤ tm') (h2 : t ≤ t') (h3 : tp ≤ tp') :
    node a dt dz2 tm t tp ≤ node a dt dz2 tm' t' tp' := by
  rw [node_eq, node_eq]
  linarith [stencil_nonneg hr (sub_nonneg.mpr h2) (sub_nonneg.mpr h3) (sub_nonneg.mpr h1)]

/-- a map of three temperatures that is monotone and fixes constants keeps every interval: compare with
the constant arguments `lo` and `hi` -/
theorem within_of_mono {g : ℚ → ℚ → ℚ → ℚ}
    (hm : ∀ {a b c a' b' c'}, a ≤ a' → b ≤ b' → c ≤ c' → g a b c ≤ g a' b' c') (hg : ∀ x, g x x x = x)
    {lo hi a b c : ℚ} (ha : lo ≤ a ∧ a ≤ hi) (hb : lo ≤ b ∧ b ≤ hi) (hc : lo ≤ c ∧ c ≤ hi) :
    lo ≤ g a b c ∧ g a b c ≤ hi :=
  ⟨(hg lo).ge.trans (hm ha.1 hb.1 hc.1), (hm ha.2 hb.2 hc.2).trans (hg hi).le⟩

theorem node_convex {a dt dz2 : ℚ} (hr : 0 ≤ diffNum a dt dz2 ∧ diffNum a dt dz2 ≤ 1 / 2) {lo hi tm t tp : ℚ}
    (h1 : lo ≤ tm ∧ tm ≤ hi) (h2 : lo ≤ t ∧ t ≤ hi) (h3 : lo ≤ tp ∧ tp ≤ hi) :
    lo ≤ node a dt dz2 tm t tp ∧ node a dt dz2 tm t tp ≤ hi :=
  within_of_mono (node_mono hr) (fun x => by rw [node_eq]; ring) h1 h2 h3

theorem hull3 {f a b c : ℚ}
    (h : ∀ lo hi, lo ≤ a ∧ a ≤ hi → lo ≤ b ∧ b ≤ hi → lo ≤ c ∧ c ≤ hi → lo ≤ f ∧ f ≤ hi) :
    min a (min b c) ≤ f ∧ f ≤ max a (max b c) :=
  h _ _ ⟨min_le_left _ _, le_max_left _ _⟩
    ⟨(min_le_right _ _).trans (min_le_left _ _), (le_max_left _ _).trans (le_max_right _ _)⟩
    ⟨(min_le_right _ _).trans (min_le_right _ _), (le_max_right _ _).trans (le_max_right _ _)⟩

abbrev NodeRespects (dt dz2 : ℚ) (R : ℚ → ℚ → Prop) (a : ℚ) : Prop :=
  ∀ {tm t tp tm' t' tp'}, R tm tm' → R t t' → R tp tp' →
    R (node a dt dz2 tm t tp) (node a dt dz2 tm' t' tp')

/-- What a relation `R` on temperatures, with a family `S k` on sums of `k` temperatures, must satisfy
to be carried through the sub-steps and the daily mean: the node update, the accumulation and the
division by 24 respect it. -/
structure Respects (dt dz2 : ℚ) (as : List ℚ) (R : ℚ → ℚ → Prop) (S : ℕ → ℚ → ℚ → Prop) : Prop where
  node : ∀ a ∈ as, NodeRespects dt dz2 R a
  zero : S 0 0 0
  add : ∀ {k s s' v v'}, S k s s' → R v v' → S (k + 1) (s + v) (s' + v')
  mean : ∀ {s s'}, S 24 s s' → R (s / 24) (s' / 24)

theorem respects_le {dt dz2 : ℚ} {as : List ℚ} (hst : Stable dt dz2 as) :
    Respects dt dz2 as (· ≤ ·) (fun _ => (· ≤ ·)) where
  node a ha := node_mono (hst a ha)
  zero := le_refl _
  add h1 h2 := add_le_add h1 h2
  mean h := div_le_div_of_nonneg_right h (by norm_num)

theorem respects_within {dt dz2 : ℚ} {as : List ℚ} (hst : Stable dt dz2 as) (lo hi : ℚ) :
    Respects dt dz2 as (fun x _ => lo ≤ x ∧ x ≤ hi)
      (fun k s _ => (k : ℚ) * lo ≤ s ∧ s ≤ (k : ℚ) * hi) where
  node a ha := node_convex (hst a ha)
  zero := by simp
  add h1 h2 := by push_cast; constructor <;> linarith [h1.1, h1.2, h2.1, h2.2]
  mean h := by
    obtain ⟨h1, h2⟩ := h
    push_cast at h1 h2
    constructor
    · rw [le_div_iff₀ (by norm_num)]; linarith
    · rw [div_le_iff₀ (by norm_num)]; linarith

section
variable {dt dz2 : ℚ} {R : ℚ → ℚ → Prop} {S : ℕ → ℚ → ℚ → Prop}

theorem interior_rel {ts ts' : List ℚ} (h : List.Forall₂ R ts ts') : ∀ {as : List ℚ} {tm tm' : ℚ},
    (∀ a ∈ as, NodeRespects dt dz2 R a) → R tm tm' →
    List.Forall₂ R (interior dt dz2 tm ts as) (interior dt dz2 tm' ts' as) := by
  induction h with
  | nil => intro as tm tm' _ _; simp [interior]
  | @cons t t' rest rest' ht hrest ih =>
    intro as tm tm' hn hm
    cases hrest with
    | nil => simp [interior]
    | @cons tp tp' r r' htp hr =>
      cases as with
      | nil => simp [interior]
      | cons a as' =>
        simp only [interior]
        exact .cons (hn a (by simp) hm ht htp) (ih (fun b hb => hn b (List.mem_cons_of_mem _ hb)) ht)

theorem interiorOf_rel {as ts ts' : List ℚ} (hn : ∀ a ∈ as, NodeRespects dt dz2 R a)
    (h : List.Forall₂ R ts ts') :
    List.Forall₂ R (interiorOf dt dz2 as ts) (interiorOf dt dz2 as ts') := by
  cases h with
  | nil => simp [interiorOf]
  | cons h0 hrest => exact interior_rel hrest hn h0

theorem addTo_rel {P Q T : ℚ → ℚ → Prop} (hadd : ∀ {s s' v v'}, P s s' → Q v v' → T (s + v) (s' + v'))
    {ss ss' : List ℚ} (hs : List.Forall₂ P ss ss') : ∀ {vs vs' : List ℚ}, List.Forall₂ Q vs vs' →
    List.Forall₂ T (addTo ss vs) (addTo ss' vs') := by
  induction hs with
  | nil => intro vs vs' _; simp [addTo]
  | cons h _ ih =>
    intro vs vs' hv
    cases hv with
    | nil => simp [addTo]
    | cons hv1 hv2 => exact .cons (hadd h hv1) (ih hv2)

theorem setLast_rel {b b' : ℚ} (hb : R b b') {ts ts' : List ℚ} (h : List.Forall₂ R ts ts') :
    List.Forall₂ R (setLast b ts) (setLast b' ts') := by
  induction h with
  | nil => simp [setLast]
  | cons h1 hrest ih =>
    cases hrest with
    | nil => exact .cons hb .nil
    | cons h2 h3 => exact .cons h1 ih

/-- any number of sub-steps (soiltemp.go:52-60) of two runs of the scheme started in related states with
related surface values and base temperatures -/
theorem steps_rel {as : List ℚ} (hR : Respects dt dz2 as R S) {surf surf' tbase tbase' : ℚ}
    (hs : R surf surf') (hb : R tbase tbase') :
    ∀ (k n : ℕ) {ts ts' sums sums' : List ℚ}, List.Forall₂ R ts ts' → List.Forall₂ (S n) sums sums' →
      List.Forall₂ R (steps dt dz2 surf tbase as k ts sums).1 (steps dt dz2 surf' tbase' as k ts' sums').1 ∧
      List.Forall₂ (S (n + k)) (steps dt dz2 surf tbase as k ts sums).2
        (steps dt dz2 surf' tbase' as k ts' sums').2 := by
  intro k
  induction k with
  | zero => intro n ts ts' sums sums' h1 h2; exact ⟨h1, h2⟩
  | succ k ih =>
    intro n ts ts' sums sums' h1 h2
    have hi := interiorOf_rel hR.node h1
    simp only [steps]
    rw [show n + (k + 1) = n + 1 + k by omega]
    exact ih (n + 1) (.cons hs (List.rel_append hi (.cons hb .nil))) (addTo_rel hR.add h2 hi)

end

def alphas (i : DayIn ℚ) : List ℚ := i.layers.map (alpha i.dt)

section
variable {R : ℚ → ℚ → Prop} {S : ℕ → ℚ → ℚ → Prop}

theorem daySteps_rel {i i' : DayIn ℚ} (hl : i'.layers = i.layers) (hdt : i'.dt = i.dt) (hdz : i'.dz = i.dz)
    (hR : Respects i.dt (i.dz * i.dz) (alphas i) R S) (hb : R i.tbase i'.tbase) {sf sf' : ℚ}
    (hs : R sf sf') {ts ts' : List ℚ} (h : List.Forall₂ R ts ts') :
    List.Forall₂ R (daySteps i sf ts).1 (daySteps i' sf' ts').1 ∧
    List.Forall₂ (S 24) (daySteps i sf ts).2 (daySteps i' sf' ts').2 := by
  unfold daySteps
  rw [hl, hdt, hdz]
  exact steps_rel hR hs hb 24 0 (setLast_rel hb h)
    (List.forall₂_same.mpr fun x hx => by obtain ⟨_, _, rfl⟩ := List.mem_map.mp hx; exact hR.zero)

-- not `rfl`: checking that would unfold the 24 sub-steps
theorem day_td_eq (i : DayIn ℚ) (ts : List ℚ) :
    (day i ts).td = tdOf (day i ts).surf i.tbase (daySteps i (day i ts).surf ts).2 := by
  simp only [day]

theorem day_td_rel {i i' : DayIn ℚ} (hl : i'.layers = i.layers) (hdt : i'.dt = i.dt) (hdz : i'.dz = i.dz)
    (hR : Respects i.dt (i.dz * i.dz) (alphas i) R S) (hb : R i.tbase i'.tbase)
    {ts ts' : List ℚ} (h : List.Forall₂ R ts ts') (hs : R (day i ts).surf (day i' ts').surf) :
    List.Forall₂ R (day i ts).td (day i' ts').td := by
  rw [day_td_eq, day_td_eq]
  have hsteps := (daySteps_rel hl hdt hdz hR hb hs h).2
  unfold tdOf
  refine .cons hs (List.rel_append ?_ (.cons hb .nil))
  exact List.forall₂_map_left_iff.mpr (List.forall₂_map_right_iff.mpr (hsteps.imp fun _ _ => hR.mean))

end

theorem day_within (i : DayIn ℚ) (tsoil : List ℚ) (lo hi : ℚ)
    (hst : Stable i.dt (i.dz * i.dz) (alphas i))
    (hb1 : lo ≤ i.tbase) (hb2 : i.tbase ≤ hi) (hw : Within lo hi tsoil)
    (hs1 : lo ≤ (day i tsoil).surf) (hs2 : (day i tsoil).surf ≤ hi) :
    Within lo hi (day i tsoil).td :=
  within_iff.mpr (day_td_rel rfl rfl rfl (respects_within hst lo hi) ⟨hb1, hb2⟩ (within_iff.mp hw) ⟨hs1, hs2⟩)

/-- the profile after the 24 sub-steps (hour 24, before the mean is fed back) lies in [lo, hi] too -/
theorem daySteps_within (i : DayIn ℚ) (tsoil : List ℚ) (surf lo hi : ℚ)
    (hst : Stable i.dt (i.dz * i.dz) (alphas i))
    (hb1 : lo ≤ i.tbase) (hb2 : i.tbase ≤ hi) (hw : Within lo hi tsoil)
    (hs1 : lo ≤ surf) (hs2 : surf ≤ hi) :
    Within lo hi (daySteps i surf tsoil).1 :=
  within_iff.mpr
    (daySteps_rel rfl rfl rfl (respects_within hst lo hi) ⟨hb1, hb2⟩ ⟨hs1, hs2⟩ (within_iff.mp hw)).1

theorem day_tsoil_eq_td (i : DayIn ℚ) (tsoil : List ℚ) : (day i tsoil).tsoil = (day i tsoil).td := rfl

theorem surface_mono {radiat sq : ℚ} (hsq : 833 < radiat → 0 ≤ sq ∧ sq ≤ 1) {tmin tmax told tmin' tmax' told' : ℚ}
    (h1 : tmin ≤ tmin') (h2 : tmax ≤ tmax') (h3 : told ≤ told') :
    surface radiat sq tmin tmax told ≤ surface radiat sq tmin' tmax' told' := by
  unfold surface
  split
  · rename_i h
    obtain ⟨q0, q1⟩ := hsq h
    linarith [mul_nonneg (sub_nonneg.mpr q1) (sub_nonneg.mpr h1), mul_nonneg q0 (sub_nonneg.mpr h2)]
  · linarith

/-- soiltemp.go:41-45 is a convex combination of TMIN, TMAX and yesterday's surface value while the
radiation coefficient `sq = sqrt(0.0003·radiat)` is at most 1: monotone, and it fixes constants -/
theorem surface_within {radiat sq : ℚ} (hsq : 833 < radiat → 0 ≤ sq ∧ sq ≤ 1) {lo hi tmin tmax told : ℚ}
    (h1 : lo ≤ tmin ∧ tmin ≤ hi) (h2 : lo ≤ tmax ∧ tmax ≤ hi) (h3 : lo ≤ told ∧ told ≤ hi) :
    lo ≤ surface radiat sq tmin tmax told ∧ surface radiat sq tmin tmax told ≤ hi :=
  within_of_mono (surface_mono hsq) (fun x => by unfold surface; split <;> ring) h1 h2 h3

theorem surface_overshoot_eq (radiat sq tmin tmax told : ℚ) (h : 833 < radiat) :
    surface radiat sq tmin tmax told
      = (1 - 0.31) * tmax + 0.31 * told + (1 - 0.31) * ((tmax - tmin) * (sq - 1)) := by
  unfold surface
  rw [if_pos h]; ring

theorem heatCap_lower (wg bd hum : ℚ) (hwg : 0 ≤ wg) (hh : 0 ≤ hum) (hbd : bd ≤ 2.65) :
    0.18 * 4.189 * bd ≤ heatCap wg bd hum := by
  unfold heatCap
  norm_num at hbd ⊢
  linarith

/-- the exponential factor can only lower the conductivity, since `11.5 − 5·BD ≥ 0` up to BD = 2.3 -/
theorem heatCond_bounds (bd e : ℚ) (h1 : 1.7 ≤ 3 * bd) (h2 : bd ≤ 2.3) (he : 0 ≤ e) :
    0 ≤ heatCond bd e 1 ∧ heatCond bd e 1 ≤ (3 * bd - 1.7) * 0.001 * (86400 * 4.189) := by
  have hD : (1 : ℚ) ≤ 1.0 + (11.5 - 5.0 * bd) * e := by
    have := mul_nonneg (by linarith : (0 : ℚ) ≤ 11.5 - 5.0 * bd) he
    linarith
  have hA : (0 : ℚ) ≤ (3 * bd - 1.7) * 0.001 := mul_nonneg (sub_nonneg.mpr h1) (by norm_num)
  have e1 : heatCond bd e 1 = (3 * bd - 1.7) * 0.001 / (1.0 + (11.5 - 5.0 * bd) * e) * (86400 * 4.189) := by
    unfold heatCond; rw [mul_one, mul_assoc]
  rw [e1]
  have hK : (0 : ℚ) ≤ 86400 * 4.189 := by norm_num
  exact ⟨mul_nonneg (div_nonneg hA (zero_le_one.trans hD)) hK, mul_le_mul_of_nonneg_right (div_le_self hA hD) hK⟩

/-- bulk density a class density (1.1 … 1.85) or a measured value in [1.7/3, 2.3] g/cm³ (every mineral
soil; HermesProps/C19.lean gives the justification); the exponential factor is a supplied input -/
def AdmLayer (l : Layer ℚ) : Prop :=
  1.7 ≤ 3 * l.bd ∧ l.bd ≤ 2.3 ∧ 0 ≤ l.wg ∧ 0 ≤ l.hum ∧ 0 < l.e ∧ l.e ≤ 1

/-- **The diffusion number of an admissible layer** (DT = 1 d, DZ = 10 cm) is at most `(3·BD − 1.7)/(5·BD)`:
0.416 at the densest class 1.85, 0.452 at 2.3.  `c` is any bound on that quotient. -/
theorem diffNum_le {l : Layer ℚ} (h : AdmLayer l) {c : ℚ} (hc : 3 * l.bd - 1.7 ≤ c * (5 * l.bd)) :
    0 ≤ diffNum (alpha 1 l) 1 (10 * 10) ∧ diffNum (alpha 1 l) 1 (10 * 10) ≤ c := by
  obtain ⟨h1, h2, hwg, hh, he, _⟩ := h
  have hbd : (0 : ℚ) < l.bd := by linarith
  obtain ⟨hN, hcond⟩ := heatCond_bounds l.bd l.e h1 h2 he.le
  have hL : (0 : ℚ) < 0.18 * 4.189 * l.bd := mul_pos (by norm_num) hbd
  have hC := heatCap_lower l.wg l.bd l.hum hwg hh (by linarith)
  have e1 : diffNum (alpha 1 l) 1 (10 * 10) = heatCond l.bd l.e 1 / heatCap l.wg l.bd l.hum / 2400 := by
    unfold diffNum alpha; ring
  rw [e1]
  refine ⟨div_nonneg (div_nonneg hN (hL.trans_le hC).le) (by norm_num),
    (div_le_div_of_nonneg_right (div_le_div₀ (hN.trans hcond) hcond hL hC) (by norm_num)).trans ?_⟩
  -- largest conductivity over smallest capacity: the constants cancel to 1/5
  rw [div_le_iff₀ (by norm_num), div_le_iff₀ hL]
  linarith only [hc]

/-- a day as the simulator runs it: DT = 1, DZ = 10, every layer admissible -/
def AdmDay (i : DayIn ℚ) : Prop := i.dt = 1 ∧ i.dz = 10 ∧ ∀ l ∈ i.layers, AdmLayer l

theorem admDay_stable (i : DayIn ℚ) (h : AdmDay i) : Stable i.dt (i.dz * i.dz) (alphas i) := by
  obtain ⟨h1, h2, h3⟩ := h
  intro a ha
  unfold alphas at ha
  obtain ⟨l, hl, rfl⟩ := List.mem_map.mp ha
  rw [h1, h2]
  exact diffNum_le (h3 l hl) (by linarith [(h3 l hl).2.1])

/-- what a day without radiation overshoot must satisfy relative to the interval [lo, hi] -/
def AirDay (lo hi : ℚ) (i : DayIn ℚ) : Prop :=
  lo ≤ i.tbase ∧ i.tbase ≤ hi ∧ lo ≤ i.tmin ∧ i.tmin ≤ hi ∧ lo ≤ i.tmax ∧ i.tmax ≤ hi ∧
  (833 < radiat i.lai i.expNegLai i.rad i.eta i.temp → 0 ≤ i.sq ∧ i.sq ≤ 1)

theorem day_surf_within {lo hi : ℚ} {i : DayIn ℚ} (h : AirDay lo hi i) {tsoil : List ℚ} (hne : tsoil ≠ [])
    (hw : Within lo hi tsoil) : lo ≤ (day i tsoil).surf ∧ (day i tsoil).surf ≤ hi := by
  obtain ⟨t, ts, rfl⟩ := List.exists_cons_of_ne_nil hne
  obtain ⟨-, -, m1, m2, x1, x2, hsq⟩ := h
  simp only [day, surfOf]
  exact surface_within hsq ⟨m1, m2⟩ ⟨x1, x2⟩ (hw t (by simp))

/-- With surface value and base temperature 0 and a single computed node, every sub-step multiplies the
node by `1 − 2r`.  For `r ≤ 0` (negative conductivity) and a start value `y ≥ 0` the node never falls, so
each of `k` sub-steps adds at least `(1 − 2r)·y` to the accumulated sum. -/
theorem steps_single_growth (dt dz2 a a' : ℚ) (hr : diffNum a dt dz2 ≤ 0) :
    ∀ (k : ℕ) (y s : ℚ), 0 ≤ y →
      ∃ y' s', steps dt dz2 0 0 [a, a'] k [0, y, 0] [s] = ([0, y', 0], [s']) ∧
        s + (k : ℚ) * ((1 - 2 * diffNum a dt dz2) * y) ≤ s' := by
  intro k
  induction k with
  | zero => intro y s _; exact ⟨y, s, rfl, by simp⟩
  | succ k ih =>
    intro y s hy
    have hnode : node a dt dz2 0 y 0 = (1 - 2 * diffNum a dt dz2) * y := by
      rw [node_eq]; ring
    have hy1 : y ≤ node a dt dz2 0 y 0 := by
      rw [hnode]; exact le_mul_of_one_le_left hy (by linarith)
    obtain ⟨y', s', e, b⟩ := ih (node a dt dz2 0 y 0) (s + node a dt dz2 0 y 0) (hy.trans hy1)
    refine ⟨y', s', e, le_trans ?_ b⟩
    have := mul_le_mul_of_nonneg_left (mul_le_mul_of_nonneg_left hy1 (by linarith : 0 ≤ 1 - 2 * diffNum a dt dz2))
      (Nat.cast_nonneg (α := ℚ) k)
    push_cast
    linarith

theorem interior_eq (dt dz2 : ℚ) : ∀ (ts : List ℚ) (tm : ℚ) (as : List ℚ), interior dt dz2 tm ts as
    = List.zipWith (fun a (p : ℚ × ℚ × ℚ) => node a dt dz2 p.1 p.2.1 p.2.2) as ((tm :: ts).zip (ts.zip (ts.drop 1)))
  | [], _, _ => by simp [interior]
  | [_], _, _ => by simp [interior]
  | _ :: _ :: _, _, [] => by simp [interior]
  | t :: tp :: r, tm, a :: as => by simp [interior, interior_eq dt dz2 (tp :: r) t as]

theorem interiorOf_eq (dt dz2 : ℚ) (as ts : List ℚ) : interiorOf dt dz2 as ts
    = List.zipWith (fun a (p : ℚ × ℚ × ℚ) => node a dt dz2 p.1 p.2.1 p.2.2) as (ts.zip ((ts.drop 1).zip (ts.drop 2))) := by
  cases ts with
  | nil => simp [interiorOf]
  | cons t rest => simp [interiorOf, interior_eq]

theorem addTo_eq : ∀ (s v : List ℚ), addTo s v = List.zipWith (· + ·) s v
  | [], _ => by simp [addTo]
  | _ :: _, [] => by simp [addTo]
  | x :: xs, y :: ys => by simp [addTo, addTo_eq xs ys]

theorem setLast_eq (b : ℚ) : ∀ l : List ℚ, setLast b l = l.set (l.length - 1) b
  | [] => rfl
  | [_] => rfl
  | x :: y :: r => by rw [setLast, setLast_eq b (y :: r)]; rfl

theorem steps_succ_right (dt dz2 surf tbase : ℚ) (as : List ℚ) : ∀ (k : Nat) (ts sums : List ℚ),
    steps dt dz2 surf tbase as (k + 1) ts sums =
      (let r := steps dt dz2 surf tbase as k ts sums
       (surf :: (interiorOf dt dz2 as r.1 ++ [tbase]), addTo r.2 (interiorOf dt dz2 as r.1))) := by
  intro k
  induction k with
  | zero => intro ts sums; simp [steps]
  | succ k ih =>
    intro ts sums
    rw [steps]
    rw [ih]
    simp [steps]

end Hermes.SoilTemp
