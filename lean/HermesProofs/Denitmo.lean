/-
Lemmas over ℚ about the model of `Denitmo` (HermesModel/Denitmo.lean) for the `C02_denitmo_…`
theorems: what a stretch of the array satisfies (`Block`, closed under `++`), one 30 cm block, and the whole
array for every number of layers (`DenitmoOk`).
-/
import HermesProofs.Mineral
import HermesModel.Denitmo
namespace Hermes.Mineral

/-- a layer's own share of a rate that does not exceed the block's nitrate never exceeds the layer's
nitrate: the clamp is dead code for it -/
theorem share_le {c n d : ℚ} (hc : 0 ≤ c) (hn : 0 < n) (hd : d ≤ n) : d * (c / n) ≤ c := by
  have : d / n ≤ 1 := (div_le_one hn).mpr hd
  calc d * (c / n) = c * (d / n) := by ring
    _ ≤ c * 1 := mul_le_mul_of_nonneg_left this hc
    _ = c := mul_one c

theorem own_shares_nonneg {c0 c1 c2 d : ℚ} (h0 : 0 ≤ c0) (h1 : 0 ≤ c1) (h2 : 0 ≤ c2) (hn : 0 < c0 + c1 + c2)
    (hd : d ≤ c0 + c1 + c2) :
    ∀ p ∈ [c0 - d * (c0 / (c0 + c1 + c2)), c1 - d * (c1 / (c0 + c1 + c2)), c2 - d * (c2 / (c0 + c1 + c2))], 0 ≤ p := by
  simp only [List.forall_mem_cons, List.not_mem_nil, false_imp_iff, implies_true, and_true, sub_nonneg]
  exact ⟨share_le h0 hn hd, share_le h1 hn hd, share_le h2 hn hd⟩

/-- what `Denitmo` does to a stretch of the array: old values `cs`, values before the clamp `ps`, new values `xs`,
booked amount `d` -/
structure Block (cs ps xs : List ℚ) (d : ℚ) : Prop where
  out : xs = ps.map (max · 0)
  le : List.Forall₂ (fun p c => p ≤ c ∧ 0 ≤ c) ps cs
  sum : ps.sum = cs.sum - d
  rate : 0 ≤ d ∧ d ≤ cs.sum

theorem Block.append {cs ps xs cs' ps' xs' : List ℚ} {d d' : ℚ} (h : Block cs ps xs d) (h' : Block cs' ps' xs' d') :
    Block (cs ++ cs') (ps ++ ps') (xs ++ xs') (d + d') where
  out := by rw [h.out, h'.out, List.map_append]
  le := List.rel_append h.le h'.le
  sum := by
    rw [List.sum_append, List.sum_append, h.sum, h'.sum]
    ring
  rate := by
    rw [List.sum_append]
    exact ⟨add_nonneg h.rate.1 h'.rate.1, add_le_add h.rate.2 h'.rate.2⟩

theorem Block.length_eq {cs ps xs : List ℚ} {d : ℚ} (h : Block cs ps xs d) : xs.length = cs.length := by
  rw [h.out, List.length_map, h.le.length_eq]

theorem Block.exact {cs ps xs : List ℚ} {d : ℚ} (h : Block cs ps xs d) (hp : ∀ p ∈ ps, 0 ≤ p) : xs.sum = cs.sum - d := by
  rw [h.out, ← h.sum, List.map_congr_left fun p hm => max_eq_left (hp p hm), List.map_id']

theorem block_of_shares {c0 c1 c2 f0 f1 f2 d : ℚ} (h0 : 0 ≤ c0) (h1 : 0 ≤ c1) (h2 : 0 ≤ c2)
    (hf0 : 0 ≤ f0) (hf1 : 0 ≤ f1) (hf2 : 0 ≤ f2) (hf : d * (f0 + f1 + f2) = d) (hd0 : 0 ≤ d) (hd : d ≤ c0 + c1 + c2) :
    Block [c0, c1, c2] [c0 - d * f0, c1 - d * f1, c2 - d * f2]
      [denitLayer c0 f0 d, denitLayer c1 f1 d, denitLayer c2 f2 d] d where
  out := by
    rw [denitLayer_eq_max d h0 hf0, denitLayer_eq_max d h1 hf1, denitLayer_eq_max d h2 hf2]
    rfl
  le := .cons ⟨sub_le_self _ (mul_nonneg hd0 hf0), h0⟩ (.cons ⟨sub_le_self _ (mul_nonneg hd0 hf1), h1⟩
    (.cons ⟨sub_le_self _ (mul_nonneg hd0 hf2), h2⟩ .nil))
  sum := by
    simp only [List.sum_cons, List.sum_nil]
    linear_combination -hf
  rate := by
    simp only [List.sum_cons, List.sum_nil, add_zero, ← add_assoc]
    exact ⟨hd0, hd⟩

theorem denitmoBlock_spec (swap : Bool) {c0 c1 c2 ft fm : ℚ} (hc : ∀ x ∈ [c0, c1, c2], 0 ≤ x)
    (hft : 0 ≤ ft ∧ ft ≤ 1) (hfm : 0 ≤ fm ∧ fm ≤ 1) :
    Block [c0, c1, c2] (denitmoBlockPre swap c0 c1 c2 ft fm) (denitmoBlock swap c0 c1 c2 ft fm).1
      (denitmoBlock swap c0 c1 c2 ft fm).2 ∧
    (swap = false → ∀ p ∈ denitmoBlockPre swap c0 c1 c2 ft fm, 0 ≤ p) := by
  have h0 := hc c0 (by simp)
  have h1 := hc c1 (by simp)
  have h2 := hc c2 (by simp)
  unfold denitmoBlock denitmoBlockPre
  by_cases hn : 0 < c0 + c1 + c2
  · obtain ⟨hd, hd0⟩ := denitRate_le 4242 (c0 + c1 + c2) ft fm hn (by norm_num) (by norm_num) hft.1 hft.2 hfm.1 hfm.2
    have q : ∀ {c : ℚ}, 0 ≤ c → 0 ≤ c / (c0 + c1 + c2) := fun hc => div_nonneg hc hn.le
    cases swap <;> simp only [hn, if_true, Bool.false_eq_true, if_false]
    · exact ⟨block_of_shares h0 h1 h2 (q h0) (q h1) (q h2) (by field_simp) hd0 hd,
        fun _ => own_shares_nonneg h0 h1 h2 hn hd⟩
    · exact ⟨block_of_shares h0 h1 h2 (q h0) (q h2) (q h1) (by field_simp; ring) hd0 hd, nofun⟩
  · simp only [hn, if_false]
    exact ⟨block_of_shares h0 h1 h2 le_rfl le_rfl le_rfl (zero_mul _) le_rfl (add_nonneg (add_nonneg h0 h1) h2),
      fun _ => by simpa only [mul_zero, sub_zero] using hc⟩

/-- an array whose entries only lose and that loses at most `d` in total keeps in every prefix at least what the
prefix held, less `d` -/
theorem prefix_ge {cs xs : List ℚ} {d : ℚ} (hle : List.Forall₂ (· ≤ ·) xs cs) (htot : cs.sum - d ≤ xs.sum) (m : ℕ) :
    (cs.take m).sum - d ≤ (xs.take m).sum := by
  have := (List.forall₂_drop m hle).sum_le_sum
  linarith only [this, htot, List.sum_take_add_sum_drop cs m, List.sum_take_add_sum_drop xs m]

/-- the inputs the `C02_denitmo_…` theorems quantify over: the array has its nine block entries,
they hold non-negative nitrate, the moisture and temperature factors of the three blocks are in
[0,1] (they are `1 − exp(−x)` with `x ≥ 0`) -/
structure DenitmoIn (c : List ℚ) (ft1 ft2 ft3 fm1 fm2 fm3 : ℚ) : Prop where
  len : 9 ≤ c.length
  nonneg : ∀ x ∈ c.take 9, 0 ≤ x
  ft1 : 0 ≤ ft1 ∧ ft1 ≤ 1
  ft2 : 0 ≤ ft2 ∧ ft2 ≤ 1
  ft3 : 0 ≤ ft3 ∧ ft3 ≤ 1
  fm1 : 0 ≤ fm1 ∧ fm1 ≤ 1
  fm2 : 0 ≤ fm2 ∧ fm2 ≤ 1
  fm3 : 0 ≤ fm3 ∧ fm3 ≤ 1

/-- what `Denitmo` does to the array `c`: `o` the result, `cum` the counter before, `pre` the nine
values compared with 0, `d12` the sum of the rates of the two upper blocks (which never clamp: `upper`) -/
structure DenitmoOk (c pre : List ℚ) (o : DenitOut ℚ) (cum d12 : ℚ) : Prop where
  length : o.c.length = c.length
  drop : o.c.drop 9 = c.drop 9
  mono : cum ≤ o.cumdenit
  booked_le : o.cumdenit - cum ≤ (c.take 9).sum
  ge : ∀ n, (c.take n).sum - (o.cumdenit - cum) ≤ (o.c.take n).sum
  exact : (∀ p ∈ pre, 0 ≤ p) → ∀ k, (o.c.take (9 + k)).sum = (c.take (9 + k)).sum - (o.cumdenit - cum)
  entry : ∀ i, i < 9 → 0 ≤ o.c.getD i 0 ∧ o.c.getD i 0 ≤ c.getD i 0
  upper : (o.c.take 6).sum = (c.take 6).sum - d12

/-- a `Block` of nine entries at the head of the array, the rest untouched -/
theorem Block.ok {cs ps xs rest : List ℚ} {d cum d12 : ℚ} {o : DenitOut ℚ} (B : Block cs ps xs d) (h9 : cs.length = 9)
    (hc : o.c = xs ++ rest) (hcum : o.cumdenit - cum = d) (hu : (xs.take 6).sum = (cs.take 6).sum - d12) :
    DenitmoOk (cs ++ rest) ps o cum d12 := by
  rw [← hcum] at B
  have entry : List.Forall₂ (fun x c => 0 ≤ x ∧ x ≤ c) xs cs := by
    rw [B.out, List.forall₂_map_left_iff]
    exact B.le.imp fun _ _ h => ⟨le_max_right _ _, max_le h.1 h.2⟩
  have ge : ps.sum ≤ xs.sum := by
    rw [B.out]
    exact (List.forall₂_map_right_iff.2 (List.forall₂_same.2 fun p _ => le_max_left p 0)).sum_le_sum
  have hl : xs.length = 9 := B.length_eq.trans h9
  constructor
  · rw [hc, List.length_append, List.length_append, hl, h9]
  · rw [hc, List.drop_left' hl, List.drop_left' h9]
  · linarith only [B.rate.1]
  · rw [List.take_left' h9]
    exact B.rate.2
  · rw [hc]
    refine prefix_ge (List.rel_append (entry.imp fun _ _ h => h.2) (List.forall₂_refl rest)) ?_
    rw [List.sum_append, List.sum_append]
    linarith only [ge, B.sum]
  · intro hp k
    rw [hc, ← hl, List.take_length_add_append, hl, ← h9, List.take_length_add_append, List.sum_append,
      List.sum_append, B.exact hp]
    ring
  · intro i hi
    rw [hc]
    exact forall₂_getD_append entry rest rest 0 0 (h9 ▸ hi)
  · rw [hc, List.take_append_of_le_length (by omega), List.take_append_of_le_length (by omega)]
    exact hu

theorem denitmo_spec {c : List ℚ} {ft1 ft2 ft3 fm1 fm2 fm3 : ℚ} (h : DenitmoIn c ft1 ft2 ft3 fm1 fm2 fm3) (cum : ℚ) :
    DenitmoOk c (denitmoPre c ft1 ft2 ft3 fm1 fm2 fm3) (denitmo c ft1 ft2 ft3 fm1 fm2 fm3 cum) cum
      ((denitmoBlock false (c.getD 0 0) (c.getD 1 0) (c.getD 2 0) ft1 fm1).2
        + (denitmoBlock false (c.getD 3 0) (c.getD 4 0) (c.getD 5 0) ft2 fm2).2) := by
  match c, h with
  | v0 :: v1 :: v2 :: v3 :: v4 :: v5 :: v6 :: v7 :: v8 :: rest, h =>
  have hc : ∀ x ∈ [v0, v1, v2] ++ [v3, v4, v5] ++ [v6, v7, v8], 0 ≤ x := h.nonneg
  simp only [List.forall_mem_append] at hc
  obtain ⟨B1, n1⟩ := denitmoBlock_spec false hc.1.1 h.ft1 h.fm1
  obtain ⟨B2, n2⟩ := denitmoBlock_spec false hc.1.2 h.ft2 h.fm2
  obtain ⟨B3, _⟩ := denitmoBlock_spec true hc.2 h.ft3 h.fm3
  have B12 := B1.append B2
  simp only [denitmo, List.getD_cons_zero, List.getD_cons_succ]
  refine (B12.append B3).ok rfl rfl (by ring) ?_
  -- the two upper blocks never clamp
  rw [List.take_left' (i := 6) B12.length_eq]
  exact B12.exact (List.forall_mem_append.2 ⟨n1 rfl, n2 rfl⟩)

end Hermes.Mineral
