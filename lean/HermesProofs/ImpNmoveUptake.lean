/-
In the first sub-step of a day `nmove` (hermes/nitro.go → `HermesModel/Generated/Impnmove.lean`) cuts the uptake the crop routine hands
over, layer by layer, to what the layer holds above 0.5 kg N/ha and to ≥ 0: the uptake array it leaves is the array of the start with
the model's `Nitro.clampPe` in every layer of the profile (`run_PE`); its later statements do not touch the uptake array.
-/
import HermesProofs.ImpNmoveCredit
import HermesProofs.Nitro

namespace Hermes.Generated.Imp.nmove
open Hermes.Imp

variable (m : MathFns ℚ)

/-- the model's clamp of what was handed over for layer `z` -/
def cut (s : St ℚ) (z : Int) : ℚ := Nitro.clampPe (rd s.g_C1 z) (rd s.g_PE z)

/-- the uptake block of the first loop of `nmove` (nitro.go:721-735), first sub-step: the uptake of layer `z` is replaced by its clamp, the
mineral N of the other layers is untouched -/
theorem loop1_uptake (z : Int) (s : St ℚ) (hs : s.p_subd = 1) (h0 : 0 ≤ z) (hz : z.toNat < s.g_PE.length) :
    (loop1 m z s).g_PE = wr s.g_PE z (cut s z) ∧ ∀ j : Int, j ≠ z → rd (loop1 m z s).g_C1 j = rd s.g_C1 j := by
  have hw : ∀ v, rd (wr s.g_PE z v) z = v := fun v => rd_wr_same _ _ _ h0 hz
  -- both arrays read through the `if`s of the body
  simp only [loop1, hs, ↓reduceIte, apply_ite St.g_PE, apply_ite St.g_C1, ite_self]
  constructor
  · -- On the other side the write is pushed into the branches of `clampPe`: the same cascade.  A clamp that does not engage writes
    -- nothing, as `PE[z] = PE[z]` would (`wr_rd_self`).
    simp only [apply_ite (fun l : List ℚ => rd l z), hw, lit0, cut, Nitro.clampPe, apply_ite (wr s.g_PE z),
      apply_ite (fun l : List ℚ => wr l z 0), wr_wr_same, wr_rd_self, ite_self]
  · intro j hj
    simp only [apply_ite (fun l : List ℚ => rd l j), rd_wr_ne _ _ _ _ hj.symm, ite_self]

/-- statement 2, the loop over all layers, first sub-step: every layer's uptake ends as the model's clamp of what was handed over and
of the mineral N the layer held at the start of the call -/
theorem top2_PE (s : St ℚ) (hs : s.p_subd = 1) (hN : s.g_N.toNat ≤ s.g_PE.length) :
    (top2 m s).g_PE = fill s.g_PE 0 (cut s) s.g_N.toNat := by
  unfold top2
  -- the sub-step number is control data, which no iteration writes (`loop1_diff`); layer `j` keeps its mineral N until iteration `j`
  have key := loopUp_noBrk_ind (loop1 m)
    (fun k u => u.p_subd = 1 ∧ u.g_PE = fill s.g_PE 0 (cut s) k ∧ ∀ j : Int, (k : Int) ≤ j → rd u.g_C1 j = rd s.g_C1 j)
    0 s.g_N s ⟨hs, rfl, fun _ _ => rfl⟩
    (fun k hk u ⟨a1, a2, a3⟩ => by
      obtain ⟨b1, b2⟩ := loop1_uptake m (0 + k) u a1 (by omega) (by rw [a2, length_fill]; omega)
      refine ⟨(congrArg (·.ctl.subd) (loop1_diff m (0 + k) u)).trans a1, ?_, fun j hj => ?_⟩
      · rw [b1, cut, a3 (0 + k) (by omega), a2, rd_fill_next]
        rfl
      · rw [b2 j (by omega)]
        exact a3 j (by omega))
  rw [Int.sub_zero] at key
  exact key.2.1

/-- the whole call: statement 1 writes only `Carray`, statements 3–11 leave the uptake array alone -/
theorem run_PE (s : St ℚ) (hs : s.p_subd = 1) (hN : s.g_N.toNat ≤ s.g_PE.length) :
    (run m s).g_PE = fill s.g_PE 0 (cut s) s.g_N.toNat :=
  (top11_rest m _).1.trans <| (congrArg Kept.pe ((top10_kept m _).trans (after2_kept m _))).trans (top2_PE m (top1 m s) hs hN)

end Hermes.Generated.Imp.nmove
