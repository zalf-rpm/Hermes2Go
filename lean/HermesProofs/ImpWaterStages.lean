/-
Refinement of the regenerated translation of `hermes.Water` (HermesModel/Generated/ImpWater.lean) to the hand-written model
`Water.step` — the stages of `run` and their composition (`water_refines`).  A stage theorem says which fields of the state the
stage changes and gives the changed arrays as views (`vw`, `seg`) equal to the model's lists; what the arrays held before the
stage enters as view equations (`hwa0`, `hwa`, `hqs`, `hq`), so that the conclusions of one stage are the hypotheses of the next.
-/
import HermesProofs.ImpWaterCascades
import Mathlib.Tactic.Linarith
import Mathlib.Tactic.Ring
import Mathlib.Tactic.NormNum

namespace Hermes.ImpWater
open Hermes.Imp Hermes.Water
open Hermes.ImpSoiltemp (vw)
open Hermes.Generated.Imp.Water

/-- what the translation needs from the state: 1 ≤ N ≤ 20 layers, arrays long enough (Go: `[21]float64`), leaching depth inside
the profile -/
structure Pre (s : St ℚ) (N : Nat) : Prop where
  hN : s.g_N = (N : Int)
  pos : 1 ≤ N
  le20 : N ≤ 20
  lWG0 : N + 1 ≤ s.g_WG_0.length
  lWG1 : N + 1 ≤ s.g_WG_1.length
  lTP : N ≤ s.g_TP.length
  lQ : N + 1 ≤ s.g_Q1.length
  lEV : N + 1 ≤ s.l_EV.length
  lLIM : N ≤ s.l_LIMIT.length
  outn0 : 0 ≤ s.g_OUTN
  outnN : s.g_OUTN ≤ (N : Int)

/-- the inputs of the model's `step` as the translation reads them -/
def inOf (s : St ℚ) (N : Nat) : In ℚ :=
  { dz := s.g_DZ_Num, wdt := s.p_wdt, first := decide (s.p_subd = 1), fluss0 := s.g_FLUSS0,
    wg := if s.p_subd = 1 then vw s.g_WG_0 N else vw s.g_WG_1 N,
    tp := vw s.g_TP N, w := vw s.g_W N, wmin := vw s.g_WMIN N, ev := vw s.l_EV N, evTail := rd s.l_EV (N : Int),
    nfk := vw s.l_NFK N, caps := vw s.g_CAPS 21, grw := s.g_GRW, draidep := s.g_DRAIDEP.toNat, draifak := s.g_DRAIFAK,
    outn := s.g_OUTN.toNat, gwauf := s.l_GWAUF, q0prev := rd s.g_Q1 0 }

theorem evRest_zero (t : St ℚ) (N : Nat) : evRest t 0 N = zip3 (vw t.v_WATER_0 N) (vw t.g_WMIN N) (vw t.l_EV N) := by
  simp only [zip3_eq_zip, vw, List.zip_map', evRest, Nat.sub_zero, Nat.zero_add]

theorem ovRest_zero (t : St ℚ) (N : Nat) : ovRest t 0 N = zip3 (vw t.v_WATER_1 N) (vw t.g_W N) (seg t.g_Q1 1 N) := by
  simp only [zip3_eq_zip, vw, seg, List.zip_map', ovRest, Nat.sub_zero, Nat.zero_add, Nat.add_comm 1]

theorem infRest_zero (t : St ℚ) (N : Nat) : infRest t 0 N = (vw t.v_WATER_0 N).zip (vw t.g_W N) := by
  simp only [vw, List.zip_map', infRest, Nat.sub_zero, Nat.zero_add]

/-- what the refinement needs from the `math` functions (true of Go's `math.Abs`, `float64(int)`, `int(math.Round(math.Max(·,1)))`) -/
structure MathOK (m : MathFns ℚ) : Prop where
  abs_neg : ∀ x : ℚ, x < 0 → m.abs x = -x
  ofInt_nat : ∀ n : Nat, m.ofInt (n : Int) = Conv.ofNat n
  round_idx : ∀ g : ℚ, (0.9 : ℚ) < g → m.toInt (m.round (m.max g 1)) = ((Conv.roundNat (if g < 1 then 1 else g) : Nat) : Int)

/-- water.go:942: the row of the capillary table.  For a distance between 0.9 and 21 dm Go's `int(math.Round(math.Max(g, 1))) - 1` is
the model's `roundNat (max g 1) - 1`, one of the 21 rows. -/
theorem MathOK.capsRow {m : MathFns ℚ} (hm : MathOK m) {g : ℚ} (h9 : (0.9 : ℚ) < g) (h21 : g < 21) :
    ∃ r : Nat, r < 21 ∧ Conv.roundNat (if g < 1 then 1 else g) - 1 = r ∧ m.toInt (m.round (m.max g 1)) - 1 = (r : Int) := by
  rw [hm.round_idx g h9, ← max_def_lt]
  have a : (1 : Int) ≤ ⌊max g 1 + 1 / 2⌋ := Int.le_floor.mpr (by push_cast; linarith [le_max_right g 1])
  have b : ⌊max g 1 + 1 / 2⌋ < 22 := Int.floor_lt.mpr (by push_cast; linarith [max_lt h21 (by norm_num : (1 : ℚ) < 21)])
  exact ⟨(⌊max g 1 + 1 / 2⌋).toNat - 1, by omega, rfl, by show (((⌊max g 1 + 1 / 2⌋).toNat : Nat) : Int) - 1 = _; omega⟩

/-- top1-top3 (water.go:822-840): local arrays, uptake (the model's `phaseUptake`), QDRAIN := 0 -/
theorem stage1 (m : MathFns ℚ) (s : St ℚ) (N : Nat) (h : Pre s N) :
    ∃ TP W0 G, top3 m (top2 m (top1 m { s with brk := false }))
        = { s with brk := false, v_WATER_0 := W0, v_WATER_1 := List.replicate 21 0, g_TP := TP, g_WG_0 := G, g_QDRAIN := 0 } ∧
      vw TP N = (phaseUptake (inOf s N)).1 ∧ vw W0 N = (phaseUptake (inOf s N)).2 := by
  obtain ⟨hN, hpos, h20, lWG0, lWG1, lTP, lQ, lEV, lLIM, ho0, hoN⟩ := h
  have hcnt : (s.g_N - 0).toNat = N := by omega
  have l21 : N ≤ (List.replicate 21 (0 : ℚ)).length := by rw [List.length_replicate]; omega
  by_cases hsub : s.p_subd = 1
  · -- first sub-step: uptake limited to the water above the wilting point
    refine ⟨fill s.g_TP 0 (limI s) N,
      fill (List.replicate 21 0) 0 (fun i => rd s.g_WG_0 i * s.g_DZ_Num - limI s i * s.p_wdt) N, s.g_WG_0,
      ?_, ?_, ?_⟩
    · simp only [top1, top2, top3, lit0]
      rw [if_pos hsub, loop1_eq m _ _ N hcnt]
      · rfl
      · exact lTP
    · rw [vw_fill_zero _ _ N N lTP (le_refl _)]
      simp only [phaseUptake, inOf, hsub, decide_true, if_true, limitTp_zipWith, vw, List.zip_map', List.zipWith_map_left,
        List.zipWith_map_right, List.zipWith_self]
      rfl
    · rw [vw_fill_zero _ _ N N l21 (le_refl _)]
      simp only [phaseUptake, inOf, hsub, decide_true, if_true, limitTp_zipWith, water0_zipWith, vw, List.zip_map', List.zipWith_map_left,
        List.zipWith_map_right, List.zipWith_self]
      rfl
  · -- later sub-steps: the profile of the previous sub-step
    refine ⟨s.g_TP, fill (List.replicate 21 0) 0 (fun i => rd s.g_WG_1 i * s.g_DZ_Num - rd s.g_TP i * s.p_wdt) N,
      fill s.g_WG_0 0 (fun i => rd s.g_WG_1 i) N, ?_, ?_, ?_⟩
    · simp only [top1, top2, top3, lit0]
      rw [if_neg hsub, loop2_eq m _ _ N hcnt]
      exact Nat.le_of_succ_le lWG0
    · simp [phaseUptake, inOf, hsub]
    · rw [vw_fill_zero _ _ N N l21 (le_refl _)]
      simp only [phaseUptake, inOf, hsub, decide_false, if_false, Bool.false_eq_true, water0_zipWith, vw, List.zipWith_map_left,
        List.zipWith_map_right, List.zipWith_self]

theorem brk_false_eta (t : St ℚ) (hb : t.brk = false) : t = { t with brk := false } := by
  cases t; simp_all

/-- top4 (water.go:841-906): the surface flux is the model's `phaseSurface` (infiltration / evaporation / no flux) -/
theorem stage2 (m : MathFns ℚ) (hm : MathOK m) (t : St ℚ) (N : Nat) (hN : t.g_N = (N : Int))
    (hb : t.brk = false) (hq : t.g_QDRAIN = 0)
    (lW1 : N + 1 ≤ t.v_WATER_1.length) (lQ : N + 1 ≤ t.g_Q1.length) (lE : N + 1 ≤ t.l_EV.length) (lL : N ≤ t.l_LIMIT.length)
    {wa0 : List ℚ} (hwa0 : vw t.v_WATER_0 N = wa0) :
    ∃ A Q E L qd a a1 wl, top4 m t = { t with v_WATER_1 := A, g_Q1 := Q, l_EV := E, l_LIMIT := L, g_QDRAIN := qd, v_a := a, v_a1 := a1, v_wlost := wl, brk := false } ∧
      N + 1 ≤ A.length ∧ N + 1 ≤ Q.length ∧
      vw A N = (phaseSurface (inOf t N) wa0).wa1 ∧
      rd Q 0 = (phaseSurface (inOf t N) wa0).qTop ∧
      seg Q 1 N = (phaseSurface (inOf t N) wa0).qs ∧
      qd = (phaseSurface (inOf t N) wa0).qdrain ∧
      vw E N = (phaseSurface (inOf t N) wa0).ev ∧
      rd E (N : Int) = (phaseSurface (inOf t N) wa0).evTail := by
  subst hwa0
  have lq0 : (0 : Int).toNat < t.g_Q1.length := by simp only [Int.toNat_zero]; omega
  by_cases hpos' : 0 < t.g_FLUSS0
  · obtain ⟨A, Q, a', b, qd, e, p1, p2, pq⟩ := infil_patch m N N 0
      { t with v_a := t.g_FLUSS0 * t.p_wdt, g_Q1 := wr t.g_Q1 0 (t.g_FLUSS0 * t.p_wdt) } (by omega) hN hb
      (Nat.le_of_succ_le lW1) (by rw [length_wr]; exact lQ) (fun _ => hq)
    simp only [infRest_zero] at p1 p2 pq
    simp only [phaseSurface, inOf, hpos', ↓reduceIte]
    have hzl : ((vw t.v_WATER_0 N).zip (vw t.g_W N)).length = N := by simp
    refine ⟨A, Q, t.l_EV, t.l_LIMIT, qd, a', t.v_a1, t.v_wlost, ?_, lW1.trans_eq p1.len.symm, lQ.trans_eq (p2.len.trans (length_wr ..)).symm,
      p1.vw_eq ((infil_length ..).1.trans hzl), ?_, p2.seg_eq ((infil_length ..).2.trans hzl), ?_, rfl, rfl⟩
    · simp only [top4, lit0, hpos', ↓reduceIte]
      rw [loopUp_eq_loopUpN _ _ _ _ N (by show (t.g_N + 1 - 1).toNat = N; omega)]
      show { (loopUpN (fun s => s.brk) (loop3 m) N ((0 + 1 : Nat) : Int) _) with brk := false } = _
      rw [e]
    · exact (p2.outside 0 (Or.inl Nat.one_pos)).trans (rd_wr_same _ _ _ (le_refl _) lq0)
    · rw [pq]
      show t.g_QDRAIN + _ = _
      rw [hq, zero_add]
  · by_cases hneg : t.g_FLUSS0 < 0
    · have habs : m.abs t.g_FLUSS0 = -t.g_FLUSS0 := hm.abs_neg _ hneg
      obtain ⟨A, Q, E, L, a1f, wlf, bf, e, p1, p2, p3⟩ := evap_patch m N N 0
        { t with v_a1 := -t.g_FLUSS0 * t.p_wdt, g_Q1 := wr t.g_Q1 0 0 } (by omega) hN hb
        (Nat.le_of_succ_le lW1) (by rw [length_wr]; exact lQ) lE lL
      simp only [evRest_zero] at p1 p2 p3
      simp only [phaseSurface, inOf, hpos', hneg, ↓reduceIte]
      have hzl : (zip3 (vw t.v_WATER_0 N) (vw t.g_WMIN N) (vw t.l_EV N)).length = N := by simp [zip3_eq_zip]
      refine ⟨A, Q, E, L, t.g_QDRAIN, t.v_a, a1f, wlf, ?_, lW1.trans_eq p1.len.symm, lQ.trans_eq (p2.len.trans (length_wr ..)).symm,
        p1.vw_eq ((evap_length ..).1.trans hzl), ?_, p2.seg_eq ((evap_length ..).2.1.trans hzl), hq, ?_,
        (p3.rd_after ((evap_length ..).2.2.trans hzl)).trans ?_⟩
      · simp only [top4, lit0, hpos', hneg, ↓reduceIte, habs]
        rw [loopUp_eq_loopUpN _ _ _ _ N (by show (t.g_N - 0).toNat = N; omega)]
        show { (loopUpN (fun s => s.brk) (loop5 m) N ((0 : Nat) : Int) _) with brk := false } = _
        rw [e]
      · exact (p2.outside 0 (Or.inl Nat.one_pos)).trans (rd_wr_same _ _ _ (le_refl _) lq0)
      · rw [vw_eq_seg]
        exact p3.seg_left ((evap_length ..).2.2.trans hzl)
      · cases (evap t.g_DZ_Num t.p_wdt (-t.g_FLUSS0 * t.p_wdt) none (zip3 (vw t.v_WATER_0 N) (vw t.g_WMIN N) (vw t.l_EV N))).2.2.2 <;> rfl
    · -- no flux through the surface: the profile is copied, Q1[0] keeps its value
      simp only [phaseSurface, inOf, hpos', hneg, ↓reduceIte]
      have pQ : Patch t.g_Q1 (fill t.g_Q1 1 (fun _ => 0) N) 1 ((List.range N).map fun _ => 0) :=
        Patch.fill t.g_Q1 1 (fun _ => 0) N (by omega)
      refine ⟨fill t.v_WATER_1 0 (fun i => rd t.v_WATER_0 i) N, fill t.g_Q1 1 (fun _ => 0) N, t.l_EV, t.l_LIMIT, t.g_QDRAIN,
        t.v_a, t.v_a1, t.v_wlost, ?_, lW1.trans_eq (length_fill ..).symm, lQ.trans_eq (length_fill ..).symm, ?_,
        rd_fill_of_not_mem _ _ _ _ _ (Or.inl Int.one_pos), ?_, hq, rfl, rfl⟩
      · simp only [top4, lit0, hpos', hneg, ↓reduceIte]
        rw [loop7_eq m t _ N (by rw [hN]; omega), ← hb]
      · exact vw_fill_zero _ _ N N (by omega) (le_refl _)
      · show seg _ 1 N = (vw t.v_WATER_0 N).map (fun _ => (0 : ℚ))
        rw [pQ.seg_eq (by simp), map_zero_eq (vw t.v_WATER_0 N), vw_length]

/-- top5 (water.go:908-915): the overflow pass -/
theorem stage3 (m : MathFns ℚ) (t : St ℚ) (N : Nat) (hN : t.g_N = (N : Int))
    (lW1 : N + 1 ≤ t.v_WATER_1.length) (lQ : N + 1 ≤ t.g_Q1.length)
    {wa qs : List ℚ} (hwa : vw t.v_WATER_1 N = wa) (hqs : seg t.g_Q1 1 N = qs) :
    ∃ A Q, top5 m t = { t with v_WATER_1 := A, g_Q1 := Q } ∧
      N + 1 ≤ A.length ∧ N + 1 ≤ Q.length ∧
      vw A N = ((overflow t.g_DZ_Num none (zip3 wa (vw t.g_W N) qs)).1.map (·.1)) ∧
      seg Q 1 N = ((overflow t.g_DZ_Num none (zip3 wa (vw t.g_W N) qs)).1.map (·.2)) ∧
      rd Q 0 = rd t.g_Q1 0 := by
  subst hwa hqs
  obtain ⟨A, Q, e, p1, p2⟩ := overflow_patch m N N 0 t (by omega) hN lW1 lQ
  rw [ovRest_zero] at p1 p2
  have hl : ∀ {β : Type} (f : ℚ × ℚ → β),
      ((overflow t.g_DZ_Num none (zip3 (vw t.v_WATER_1 N) (vw t.g_W N) (seg t.g_Q1 1 N))).1.map f).length = N := by
    simp [overflow_length, zip3_eq_zip]
  refine ⟨A, Q, ?_, lW1.trans_eq p1.len.symm, lQ.trans_eq p2.len.symm, ?_, p2.seg_eq (hl _), p2.outside 0 (Or.inl Nat.one_pos)⟩
  · simp only [top5]
    rw [loopUp_eq_loopUpN _ _ _ _ N (by rw [hN]; omega)]
    exact e
  · rw [vw_eq_seg]
    exact p1.seg_left (hl _)

/-- the search of the receiving layer (top6-top8) -/
theorem stage4_search (m : MathFns ℚ) (t : St ℚ) (N : Nat) (hN : t.g_N = (N : Int)) :
    top8 m (top7 m (top6 m t)) = { t with v_caplay := ((capLayer (vw t.l_NFK N) : Nat) : Int), v_capdep := 1 } := by
  simp only [top6, top7, top8]
  rw [loopDown_eq_loopDownN _ _ _ _ N (by omega), hN, loop9_loop m N, if_pos rfl]

/-- top6-top9 (water.go:924-951): the capillary rise is the model's `phaseCapillary` -/
theorem stage4 (m : MathFns ℚ) (hm : MathOK m) (t : St ℚ) (N : Nat) (hN : t.g_N = (N : Int))
    (lW1 : N + 1 ≤ t.v_WATER_1.length) (lQ : N + 1 ≤ t.g_Q1.length)
    {wa qs : List ℚ} (hwa : vw t.v_WATER_1 N = wa) (hqs : seg t.g_Q1 1 N = qs) :
    ∃ A Q cl gd gi, top9 m (top8 m (top7 m (top6 m t)))
        = { t with v_caplay := cl, v_capdep := 1, v_GWDIST := gd, v_GWDISTindex := gi, v_WATER_1 := A, g_Q1 := Q } ∧
      (vw A N, seg Q 1 N) = phaseCapillary (inOf t N) wa qs ∧
      rd Q 0 = rd t.g_Q1 0 := by
  subst hwa hqs
  rw [stage4_search m t N hN]
  have h21 : (21.0 : ℚ) = 21 := by norm_num
  have h09 : ¬ ((0.9 : ℚ) < 0) := by norm_num
  set D := capLayer (vw t.l_NFK N) with hD
  have hDle : D ≤ N := (capLayer_le _).trans_eq (vw_length ..)
  have hrise := capRise_eq t.g_DZ_Num t.p_wdt t.g_GRW (vw t.g_CAPS 21) D
  set g0 := t.g_GRW + 1 - (D : ℚ) with hg0
  by_cases hD0 : D = 0
  · -- no layer below 70 % of the available capacity
    refine ⟨t.v_WATER_1, t.g_Q1, ((D : Nat) : Int), t.v_GWDIST, t.v_GWDISTindex, ?_,
      (phaseCapillary_none (inOf t N) _ _ (hrise.trans (if_neg fun h => h.1 hD0))).symm, rfl⟩
    have : ¬ ((0 : Int) < ((D : Nat) : Int)) := by omega
    simp only [top9, this, ↓reduceIte]
  · have hcl : (0 : Int) < ((D : Nat) : Int) := by omega
    have eidx : ((D : Nat) : Int) - 1 = ((D - 1 : Nat) : Int) := by omega
    have hnfk : rd t.l_NFK ((D - 1 : Nat) : Int) < 0.7 := capLayer_nfk_lt t.l_NFK N (Nat.pos_of_ne_zero hD0)
    have hof : m.ofInt ((D : Nat) : Int) = (D : ℚ) := hm.ofInt_nat D
    by_cases hR : g0 < 21 ∧ 0.9 < g0
    · -- capillary rise into layer D, the fluxes through all boundaries below it are reduced by the same amount
      obtain ⟨hlt, h9⟩ := hR
      have hneg : ¬ g0 < 0 := fun h => h09 (h9.trans h)
      rw [if_pos ⟨hD0, hlt, h9⟩] at hrise
      obtain ⟨r, hr21, hr, hidx⟩ := hm.capsRow h9 hlt
      obtain ⟨c, hc⟩ : ∃ c, c = rd t.g_CAPS (r : Int) * t.g_DZ_Num * t.p_wdt := ⟨_, rfl⟩
      rw [hr, vw_getD _ _ _ hr21, ← hc] at hrise
      have hD1 : D - 1 < t.v_WATER_1.length := by omega
      have hn : (t.g_N + 1 - ((D : Nat) : Int)).toNat = N + 1 - D := by omega
      have p10 := rd_fill t.g_Q1 ((D : Nat) : Int) (fun i => rd t.g_Q1 i - c) (N + 1 - D) (by omega) (by omega)
      refine ⟨wr t.v_WATER_1 ((D - 1 : Nat) : Int) (rd t.v_WATER_1 ((D - 1 : Nat) : Int) + c),
        fill t.g_Q1 ((D : Nat) : Int) (fun i => rd t.g_Q1 i - c) (N + 1 - D), ((D : Nat) : Int), g0, (r : Int), ?_, ?_,
        rd_fill_of_not_mem _ _ _ _ _ (Or.inl (by omega))⟩
      · simp only [top9, hcl, ↓reduceIte, eidx, lit0, lit1, h21, hof, ← hg0, hlt, hnfk, hneg, h9, hidx, ← hc]
        rw [loop10_eq m _ _ _ (N + 1 - D) hn]
        simp only [← hc]
      · simp only [phaseCapillary, inOf, ← hD, hrise]
        congr 1
        · refine vw_ext _ _ _ (by simp [addAt_modify]) (fun j hj2 => ?_)
          rw [rd_wr_nat _ (D - 1) j _ hD1]
          simp only [addAt_modify, List.getElem_modify, vw_getElem]
          split_ifs with hjd
          · rw [hjd]
          · rfl
        · refine seg_ext _ _ _ _ (by simp [subFrom_eq]) (fun j hj => ?_)
          rw [p10]
          simp only [subFrom_eq, List.getElem_mapIdx, getElem_seg]
          exact if_congr (by omega) rfl rfl
    · -- nothing rises: the statement leaves at most a new distance in `GWDIST`
      obtain ⟨gd, e⟩ : ∃ gd, top9 m { t with v_caplay := ((D : Nat) : Int), v_capdep := 1 }
          = { t with v_caplay := ((D : Nat) : Int), v_capdep := 1, v_GWDIST := gd } := by
        by_cases hlt : g0 < 21
        · by_cases hneg : g0 < 0
          · -- the table stands above the layer
            exact ⟨0, by simp only [top9, hcl, ↓reduceIte, eidx, lit0, lit1, h21, hof, ← hg0, hlt, hnfk, hneg, h09]⟩
          · -- the table reaches the layer (distance at most 0.9 dm)
            have h9 : ¬ (0.9 : ℚ) < g0 := fun h => hR ⟨hlt, h⟩
            exact ⟨g0, by simp only [top9, hcl, ↓reduceIte, eidx, lit0, lit1, h21, hof, ← hg0, hlt, hnfk, hneg, h9]⟩
        · -- groundwater deeper than 2.1 m below the layer
          exact ⟨g0, by simp only [top9, hcl, ↓reduceIte, lit1, h21, hof, ← hg0, hlt]⟩
      exact ⟨t.v_WATER_1, t.g_Q1, _, gd, t.v_GWDISTindex, e,
        (phaseCapillary_none (inOf t N) _ _ (hrise.trans (if_neg fun h => hR h.2))).symm, rfl⟩

/-- top10-top18 (water.go:953-994): the new water contents and the accumulators -/
theorem stage5 (m : MathFns ℚ) (u : St ℚ) (N : Nat) (hN : u.g_N = (N : Int)) {q : ℚ} (hq : rd u.g_Q1 u.g_OUTN = q) :
    let G := fill u.g_WG_1 0 (fun i => rd u.v_WATER_1 i / u.g_DZ_Num) N
    ∃ c, top18 m (top17 m (top16 m (top15 m (top14 m (top13 m (top12 m (top11 m (top10 m u))))))))
      = withCounters { u with g_WG_1 := wr G (N : Int) (rd G ((N : Int) - 1)),
                              g_DRAISUM := u.g_DRAISUM + u.g_QDRAIN * 10,
                              g_SICKER := u.g_SICKER + (if 0 < q then q * 10 else 0),
                              g_CAPSUM := u.g_CAPSUM + ((if 0 < q then 0 else 0 + q * 10) - u.l_GWAUF * 10 * u.p_wdt),
                              g_INFILT := u.g_INFILT + (if 0 < u.g_FLUSS0 then u.g_FLUSS0 * u.p_wdt else 0) } c := by
  subst hq
  obtain ⟨c, e⟩ := loop11_eq m u (u.g_N + 1) N (by omega)
  -- after sowing or not: `top12` and `top17` write counters that are not followed
  have h12 : ∀ v : St ℚ, top12 m v = { v with g_ETAG := (top12 m v).g_ETAG } := fun v => by unfold top12; split <;> rfl
  have h17 : ∀ v : St ℚ, top17 m v = { v with g_PERG := (top17 m v).g_PERG } := fun v => by unfold top17; split <;> rfl
  intro G
  refine ⟨top18 m (top17 m (top16 m (top15 m (top14 m (top13 m (top12 m (top11 m (top10 m u)))))))), ?_⟩
  rw [show top10 m u = _ from e, h12, h17]
  -- `c2`, `c3` decide which accumulator grows.  In each of the four cases the two states differ in how the sums are written: the
  -- branch taken adds nothing where the model adds 0
  by_cases c2 : 0 < rd u.g_Q1 u.g_OUTN <;> by_cases c3 : 0 < u.g_FLUSS0 <;>
    simp only [G, withCounters, top11, top13, top14, top15, top16, top18, lit0, lit10, hN, c2, c3, ↓reduceIte] <;>
    congr 1 <;> ring

/-- **Refinement.**  For every state with 1 ≤ N ≤ 20 layers (arrays long enough, leaching depth inside the profile) and `math`
functions that behave like Go's on the few calls `Water` makes (`MathOK`), the translation of the current source of `Water`
leaves in `WG[1]`, `TP`, `EV`, `Q1`, `QDRAIN` and the accumulators exactly what the model's `step` computes from the inputs the
source reads. -/
theorem water_refines (m : MathFns ℚ) (hm : MathOK m) (s : St ℚ) (N : Nat) (h : Pre s N) :
    vw (Generated.Imp.Water.run m s).g_WG_1 N = (step (inOf s N)).wg1 ∧
    vw (Generated.Imp.Water.run m s).g_TP N = (step (inOf s N)).tp ∧
    vw (Generated.Imp.Water.run m s).l_EV N = (step (inOf s N)).ev ∧
    rd (Generated.Imp.Water.run m s).l_EV (N : Int) = (step (inOf s N)).evTail ∧
    vw (Generated.Imp.Water.run m s).g_Q1 (N + 1) = (step (inOf s N)).q1 ∧
    (Generated.Imp.Water.run m s).g_QDRAIN = (step (inOf s N)).qdrain ∧
    (Generated.Imp.Water.run m s).g_DRAISUM = s.g_DRAISUM + (step (inOf s N)).dDraisum ∧
    (Generated.Imp.Water.run m s).g_SICKER = s.g_SICKER + (step (inOf s N)).dSicker ∧
    (Generated.Imp.Water.run m s).g_CAPSUM = s.g_CAPSUM + (step (inOf s N)).dCapsum ∧
    (Generated.Imp.Water.run m s).g_INFILT = s.g_INFILT + (step (inOf s N)).dInfilt := by
  -- the stages, each on the state the one before left; the states are local definitions, so their fields are read by `rfl`
  obtain ⟨TP, W0, G, e1, hu1, hu2⟩ := stage1 m s N h
  obtain ⟨hN, -, h20, -, lWG1, -, lQ, lEV, lLIM, ho0, hoN⟩ := h
  have l21 : N + 1 ≤ (List.replicate 21 (0 : ℚ)).length := by rw [List.length_replicate]; omega
  set s1 : St ℚ := { s with brk := false, v_WATER_0 := W0, v_WATER_1 := List.replicate 21 0, g_TP := TP, g_WG_0 := G, g_QDRAIN := 0 }
  obtain ⟨A2, Q2, E2, L2, qd2, a2, a12, wl2, e2, lA2, lQ2, hwa1, hq0, hqs, hqd, hev, hevT⟩ :=
    stage2 m hm s1 N hN rfl rfl l21 lQ lEV lLIM hu2
  set s2 : St ℚ := { s1 with v_WATER_1 := A2, g_Q1 := Q2, l_EV := E2, l_LIMIT := L2, g_QDRAIN := qd2, v_a := a2, v_a1 := a12, v_wlost := wl2, brk := false }
  obtain ⟨A3, Q3, e3, lA3, lQ3, hA3, hQ3, hQ30⟩ := stage3 m s2 N hN lA2 lQ2 hwa1 hqs
  set s3 : St ℚ := { s2 with v_WATER_1 := A3, g_Q1 := Q3 }
  obtain ⟨A4, Q4, cl4, gd4, gi4, e4, hcap, hQ40⟩ := stage4 m hm s3 N hN lA3 lQ3 hA3 hQ3
  set s4 : St ℚ := { s3 with v_caplay := cl4, v_capdep := 1, v_GWDIST := gd4, v_GWDISTindex := gi4, v_WATER_1 := A4, g_Q1 := Q4 }
  have hrun : Generated.Imp.Water.run m s
      = top18 m (top17 m (top16 m (top15 m (top14 m (top13 m (top12 m (top11 m (top10 m s4)))))))) := by
    unfold Generated.Imp.Water.run
    simp only []
    rw [e1, e2, e3, e4]
  rw [hrun]
  set i := inOf s N
  -- the surface phase, the overflow pass and the capillary rise read only inputs that the stages before them left alone
  have hsurf : phaseSurface (inOf s1 N) (phaseUptake i).2 = surfOf i := rfl
  rw [hsurf] at hwa1 hq0 hqs hqd hev hevT hcap
  have hA4 : vw A4 N = (capOf i).1 := congrArg Prod.fst hcap
  have hQ4 : seg Q4 1 N = (capOf i).2 := congrArg Prod.snd hcap
  have hq1 : vw Q4 (N + 1) = (step i).q1 := by rw [step_q1, vw_succ, hQ40.trans (hQ30.trans hq0), hQ4]
  have hout : rd Q4 s.g_OUTN = (step i).q1.getD i.outn 0 := by
    rw [rd_eq_vw_getD Q4 (N + 1) _ ho0 (by omega), hq1]
    rfl
  obtain ⟨c5, e5⟩ := stage5 m s4 N hN hout
  rw [e5]
  refine ⟨?_, hu1, hev, hevT, hq1, hqd, congrArg (fun x => s.g_DRAISUM + x * 10) hqd, rfl, rfl, rfl⟩
  -- WG[1]: the new contents; `WG[1][N]` (top13) lies behind the view
  rw [step_wg1, ← hA4]
  refine vw_ext _ _ _ (by simp) (fun j hj => ?_)
  show rd (wr (fill s.g_WG_1 0 (fun k => rd A4 k / i.dz) N) (N : Int) _) (j : Int) = _
  rw [rd_wr_nat _ N j _ (by rw [length_fill]; exact lWG1), if_neg (by omega), rd_fill_zero _ _ _ _ (Nat.le_of_succ_le lWG1) hj,
    List.getElem_map, vw_getElem]

end Hermes.ImpWater
