/-
The output model (HermesModel/Output.lean): every column adds a text (`emits` is constantly true), so the field
counter of a record is the number of columns, which gives the record length of both styles.
-/
import HermesModel.Output

namespace Hermes.Output

/-- The counter guard of OutputLine.Add never bites: there are never more texts than columns. -/
theorem countLoop_eq (len : Nat) : ∀ (refs : List Ref) (c : Nat), c + refs.length ≤ len →
    countLoop len refs c = c + refs.length
  | [], c, _ => rfl
  | r :: rest, c, h => by
    simp only [List.length_cons] at h
    have hc : c < len := by omega
    simp only [countLoop, emits, addField, hc, if_true]
    rw [countLoop_eq len rest (c + 1) (by omega), List.length_cons]; omega

theorem counter_eq (refs : List Ref) : counter refs = refs.length := by
  unfold counter
  rw [countLoop_eq refs.length refs 0 (by omega)]; omega

theorem csvSeparators_eq (c : Nat) : ∀ len : Nat, csvSeparators len c = min len (c - 1)
  | 0 => by simp [csvSeparators]
  | n + 1 => by
    have ih := csvSeparators_eq c n
    unfold csvSeparators at ih ⊢
    rw [List.range_succ, List.filter_append, List.length_append, ih]
    by_cases h : n + 1 < c
    · simp [h]; omega
    · simp [h]; omega

theorem record_eq (style : Style) (refs : List Ref) :
    record style refs = if refs.length > 0 then some refs.length else none := by
  cases style
  · simp [record, lineBreak, counter_eq]
  · simp only [record, lineBreak, counter_eq, csvSeparators_eq]
    by_cases h : refs.length > 0
    · simp [h]; omega
    · simp [h]

end Hermes.Output
