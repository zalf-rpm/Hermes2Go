/-
The rotation model (HermesModel/Rotation.lean): the sowing block and the harvest tests of `PhytoOut` in one equation each,
and what the day step keeps (`AKF`, the records, the latest-harvest invariant).
-/
import HermesModel.Rotation
import Mathlib.Algebra.Order.Ring.Rat

namespace Hermes.Rotation

@[simp] theorem upd_same (a : Arr) (i v : Nat) : upd a i v i = v := by simp [upd]
theorem upd_other (a : Arr) (i v j : Nat) (h : j ≠ i) : upd a i v j = a j := by simp [upd, h]
theorem upd_upd (a : Arr) (i v w : Nat) : upd (upd a i v) i w = upd a i w := by
  funext j; unfold upd; split <;> rfl

theorem sowGate_iff (c : Cfg) (zeit : Nat) (s : St) :
    sowGate c zeit s = true ↔ c.automan = true ∧ 1 ≤ s.akf ∧ s.saat s.akf = 0 ∧ s.saat1 s.akf ≤ zeit := by
  simp [sowGate, and_assoc]

theorem sowingBlock_eq (c : Cfg) (zeit : Nat) (trig : Bool) (s : St) :
    sowingBlock c zeit trig s =
      if sowGate c zeit s = true ∧ ((trig = true ∧ s.ernte (s.akf - 1) + 4 < zeit) ∨ zeit = s.saat2 s.akf)
      then setSaat s zeit else s := by
  unfold sowingBlock
  by_cases hg : sowGate c zeit s = true
  · obtain ⟨-, -, h0, -⟩ := (sowGate_iff c zeit s).mp hg
    by_cases ht : trig = true ∧ s.ernte (s.akf - 1) + 4 < zeit
    · -- sown on the trigger; the forced sowing behind it can only write the same day again
      have e : trigSow zeit trig s = setSaat s zeit := by simp [trigSow, ht]
      rw [if_pos hg, if_pos ⟨hg, Or.inl ht⟩, e]
      unfold forcedSow; split
      · simp [setSaat, upd_upd]
      · rfl
    · have e : trigSow zeit trig s = s := by
        unfold trigSow; rw [if_neg]; simpa using ht
      rw [if_pos hg, e]
      by_cases hz : zeit = s.saat2 s.akf
      · rw [if_pos ⟨hg, Or.inr hz⟩]; simp [forcedSow, hz, h0]
      · rw [if_neg (fun h => h.2.elim ht hz)]; simp [forcedSow, hz]
  · rw [if_neg hg, if_neg (fun h => hg h.1)]

/-- what the sowing block, the sowing event and the push of the successor's sowing date leave alone -/
structure Quiet (s t : St) : Prop where
  akf : t.akf = s.akf
  records : t.records = s.records
  ernte : t.ernte = s.ernte
  ernte2 : t.ernte2 = s.ernte2

theorem quiet_sowingBlock (c : Cfg) (zeit : Nat) (trig : Bool) (s : St) : Quiet s (sowingBlock c zeit trig s) := by
  rw [sowingBlock_eq]; split <;> exact ⟨rfl, rfl, rfl, rfl⟩

theorem quiet_sowEvent (zeit : Nat) (s : St) : Quiet s (sowEvent zeit s) := by
  unfold sowEvent; split <;> exact ⟨rfl, rfl, rfl, rfl⟩

theorem quiet_pushNextSowing (zeit base : Nat) (s : St) : Quiet s (pushNextSowing zeit base s) := by
  unfold pushNextSowing; split <;> exact ⟨rfl, rfl, rfl, rfl⟩

/-- a harvest date of the current crop, once set, is not after its latest harvest date `ERNTE2` -/
def HarvInv (s : St) : Prop := s.ernte s.akf = 0 ∨ s.ernte s.akf ≤ s.ernte2 s.akf

/-- what each step of the day before the crop switch does -/
structure Keeps (s t : St) : Prop where
  akf : t.akf = s.akf
  records : t.records = s.records
  harvInv : HarvInv s → HarvInv t

theorem Keeps.refl (s : St) : Keeps s s := ⟨rfl, rfl, id⟩
theorem Keeps.trans {s t u : St} (h1 : Keeps s t) (h2 : Keeps t u) : Keeps s u :=
  ⟨h2.akf.trans h1.akf, h2.records.trans h1.records, h2.harvInv ∘ h1.harvInv⟩

theorem Quiet.keeps {s t : St} (q : Quiet s t) : Keeps s t :=
  ⟨q.akf, q.records, fun h => by unfold HarvInv; rw [q.ernte, q.ernte2, q.akf]; exact h⟩

theorem keeps_setErnte {s : St} {z : Nat} (h : z ≤ s.ernte2 s.akf) : Keeps s (setErnte s z) :=
  ⟨rfl, rfl, fun _ => Or.inr ((upd_same _ _ _).trans_le h)⟩

theorem keeps_setErnteBoth (s : St) (z : Nat) : Keeps s (setErnteBoth s z) :=
  ⟨rfl, rfl, fun _ => Or.inr ((upd_same _ _ _).trans_le (upd_same _ _ _).ge)⟩

/-- The harvest tests of `PhytoOut` (crop.go:182-204, 549-555) in one equation.  With a harvest date set nothing happens.
Otherwise the automatic harvest of an emerged crop sets `ERNTE = ERNTE2 =` today (after which neither forced harvest
applies); else, on the eve of the latest date, the forced harvest sets tomorrow: the test inside the emerged-crop block,
which leaves the successor's sowing date alone, or the one behind it. -/
theorem harvests_eq (zeit : Nat) (em ht : Bool) (t : St) :
    forcedHarvest2 zeit (harvestBlock zeit em ht t) =
      if t.ernte t.akf = 0 then
        if em = true ∧ ht = true then pushNextSowing zeit zeit (setErnteBoth t zeit)
        else if zeit + 1 = t.ernte2 t.akf then
          if em = true then setErnte t (zeit + 1) else pushNextSowing zeit (zeit + 1) (setErnte t (zeit + 1))
        else t
      else t := by
  by_cases h0 : t.ernte t.akf = 0
  · rw [if_pos h0]
    cases em
    · simp [harvestBlock, forcedHarvest2, h0]  -- not emerged: the second test alone
    have hb : harvestBlock zeit true ht t = forcedHarvest1 zeit (autoHarvest zeit ht t) := by simp [harvestBlock, h0]
    rw [hb]
    cases ht
    · by_cases he : zeit + 1 = t.ernte2 t.akf
      · -- the first test sets tomorrow, which switches the second off
        have h1 : forcedHarvest1 zeit (autoHarvest zeit false t) = setErnte t (zeit + 1) := by
          simp [autoHarvest, forcedHarvest1, h0, he]
        have h2 : forcedHarvest2 zeit (setErnte t (zeit + 1)) = setErnte t (zeit + 1) := if_neg (by simp [setErnte])
        rw [h1, h2, if_neg (by simp), if_pos he, if_pos rfl]
      · simp [autoHarvest, forcedHarvest1, forcedHarvest2, he]
    · -- `ERNTE2 =` today: tomorrow is not `ERNTE2` in either test
      obtain ⟨f3, -, -, f2⟩ := quiet_pushNextSowing zeit zeit (setErnteBoth t zeit)
      have hu : autoHarvest zeit true t = pushNextSowing zeit zeit (setErnteBoth t zeit) := rfl
      rw [hu]
      generalize pushNextSowing zeit zeit (setErnteBoth t zeit) = u at f2 f3
      have h2 : u.ernte2 u.akf = zeit := by rw [f2, f3]; exact upd_same _ _ _
      simp [forcedHarvest1, forcedHarvest2, h2]
  · simp [harvestBlock, forcedHarvest2, h0]

theorem keeps_harvests (zeit : Nat) (em ht : Bool) (t : St) : Keeps t (forcedHarvest2 zeit (harvestBlock zeit em ht t)) := by
  rw [harvests_eq]
  split_ifs with _ _ he
  · exact (keeps_setErnteBoth t zeit).trans (quiet_pushNextSowing zeit zeit _).keeps
  · exact keeps_setErnte he.le
  · exact (keeps_setErnte he.le).trans (quiet_pushNextSowing zeit _ _).keeps
  all_goals exact Keeps.refl t

theorem keeps_phyto (zeit : Nat) (em ht : Bool) (s : St) : Keeps s (phyto zeit em ht s) := by
  unfold phyto; split
  · exact (quiet_sowEvent zeit s).keeps.trans (keeps_harvests zeit em ht _)
  · exact Keeps.refl s

theorem keeps_sow_phyto (c : Cfg) (zeit : Nat) (trig em ht : Bool) (s : St) :
    Keeps s (phyto zeit em ht (sowingBlock c zeit trig s)) :=
  (quiet_sowingBlock c zeit trig s).keeps.trans (keeps_phyto zeit em ht _)

theorem harvest_akf_ne_iff (c : Cfg) (zeit : Nat) (orgH : Bool) (s : St) :
    (harvest c zeit orgH s).akf ≠ s.akf ↔ zeit = s.ernte s.akf := by
  unfold harvest
  split
  · refine ⟨fun _ => ‹_›, fun _ => ?_⟩
    split <;> exact Nat.ne_of_gt (Nat.lt_add_of_pos_right (by decide))
  · exact ⟨fun h => absurd rfl h, fun h => absurd h ‹_›⟩

/-- the harvest step whenever the skipped-crop branch does not fire -/
theorem harvest_eq (c : Cfg) (zeit : Nat) (orgH : Bool) (s : St)
    (h : ¬(s.saat2 (s.akf + 1) ≤ zeit ∧ c.automan = true ∧ orgH = true)) :
    harvest c zeit orgH s =
      if zeit = s.ernte s.akf then
        { s with akf := s.akf + 1, records := if 1 ≤ s.akf then s.records ++ [(s.akf, zeit)] else s.records }
      else s := by
  have h' : ¬(decide (s.saat2 (s.akf + 1) ≤ zeit) && c.automan && orgH) = true := by simpa [and_assoc] using h
  rw [harvest, if_neg h']

theorem harvest_false (c : Cfg) (zeit : Nat) (s : St) :
    harvest c zeit false s =
      if zeit = s.ernte s.akf then
        { s with akf := s.akf + 1, records := if 1 ≤ s.akf then s.records ++ [(s.akf, zeit)] else s.records }
      else s :=
  harvest_eq c zeit false s (fun h => Bool.false_ne_true h.2.2)

theorem fmax_eq_max (a b : ℚ) : fmax a b = max a b := (max_def_lt a b).symm
theorem fmin_eq_min (a b : ℚ) : fmin a b = min a b := (min_def_lt' a b).symm

theorem autoN_nonneg (ndem nmin : ℚ) : 0 ≤ autoN ndem nmin := by
  rw [autoN, fmax_eq_max]; exact le_max_right _ _

theorem autoN_le (ndem nmin : ℚ) (hd : 0 ≤ ndem) (hn : 0 ≤ nmin) : autoN ndem nmin ≤ ndem := by
  rw [autoN, fmax_eq_max]; exact max_le (sub_le_self _ hn) hd

end Hermes.Rotation
