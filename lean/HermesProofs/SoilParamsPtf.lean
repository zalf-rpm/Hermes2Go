/-
Pedotransfer function 1 (Toth 2015) over its whole continuous domain.  Both results are multilinear in
u = 1/(C_org+1) ∈ [1/7, 1], clay T and silt U (`tri`).  Such a form is affine in u and, for fixed u and T, in U,
so a lower bound has to be checked only for u at its two ends, at the corners (5,5), (90,5) of the texture
triangle and on its hypotenuse U = 95 − T, where the form is a quadratic in T with leading coefficient −a₃:
concave (the two ends suffice) or bounded below by its discriminant (`tri_ge`).
-/
import HermesProofs.Decimals
import HermesModel.SoilParams
import Mathlib.Tactic.Linarith
import Mathlib.Tactic.NormNum
import Mathlib.Tactic.Ring

namespace Hermes.SoilParams

theorem affine_ge (p q a b x m : ℚ) (ha : a ≤ x) (hb : x ≤ b) (h1 : m ≤ p + q * a) (h2 : m ≤ p + q * b) :
    m ≤ p + q * x := by
  rcases le_total 0 q with hq | hq
  · linarith [mul_le_mul_of_nonneg_left ha hq]
  · linarith [mul_le_mul_of_nonpos_left hb hq]

/-- a concave quadratic lies above its chord -/
theorem quad_ge_concave (α β γ a b m x : ℚ) (hα : α ≤ 0) (ha : a ≤ x) (hb : x ≤ b)
    (h1 : m ≤ α * a * a + β * a + γ) (h2 : m ≤ α * b * b + β * b + γ) : m ≤ α * x * x + β * x + γ := by
  have hc := affine_ge (γ - α * a * b) (α * (a + b) + β) a b x m ha hb (by linarith) (by linarith)
  have hp := mul_nonneg (neg_nonneg.2 hα) (mul_nonneg (sub_nonneg.2 ha) (sub_nonneg.2 hb))
  linarith

theorem quad_ge_convex (α β γ m x : ℚ) (hα : 0 < α) (hd : β * β ≤ 4 * α * (γ - m)) :
    m ≤ α * x * x + β * x + γ := by
  nlinarith [mul_self_nonneg (2 * α * x + β)]

/-- the multilinear form of PTF1 in `u = 1/(C_org+1)`, clay `T`, silt `U` -/
def tri (a0 a1 a2 a3 a4 a5 a6 u T U : ℚ) : ℚ :=
  a0 * u * T + a1 * u * U + a2 * u + a3 * T * U + a4 * T + a5 * U + a6

theorem tri_hyp (a0 a1 a2 a3 a4 a5 a6 u T : ℚ) :
    tri a0 a1 a2 a3 a4 a5 a6 u T (95 - T) =
      -a3 * T * T + ((a0 - a1) * u + 95 * a3 + a4 - a5) * T + ((95 * a1 + a2) * u + 95 * a5 + a6) := by
  unfold tri; ring

theorem tri_ge_triangle (a0 a1 a2 a3 a4 a5 a6 m u T U : ℚ) (hT : 5 ≤ T) (hU : 5 ≤ U) (hs : T + U ≤ 95)
    (h1 : m ≤ tri a0 a1 a2 a3 a4 a5 a6 u 5 5) (h2 : m ≤ tri a0 a1 a2 a3 a4 a5 a6 u 90 5)
    (h3 : ∀ T, 5 ≤ T → T ≤ 90 → m ≤ tri a0 a1 a2 a3 a4 a5 a6 u T (95 - T)) :
    m ≤ tri a0 a1 a2 a3 a4 a5 a6 u T U := by
  have hT90 : T ≤ 90 := by linarith
  have h3 := h3 T hT hT90
  unfold tri at *
  have e5 := affine_ge (a1 * u * 5 + a2 * u + a5 * 5 + a6) (a0 * u + a3 * 5 + a4) 5 90 T m hT hT90
    (by linarith) (by linarith)
  have := affine_ge (a0 * u * T + a2 * u + a4 * T + a6) (a1 * u + a3 * T + a5) 5 (95 - T) U m hU (by linarith)
    (by linarith) (by linarith)
  linarith

theorem tri_ge (a0 a1 a2 a3 a4 a5 a6 m u0 u1 u T U : ℚ) (hu0 : u0 ≤ u) (hu1 : u ≤ u1) (hT : 5 ≤ T) (hU : 5 ≤ U)
    (hs : T + U ≤ 95)
    (h : ∀ v, v = u0 ∨ v = u1 → m ≤ tri a0 a1 a2 a3 a4 a5 a6 v 5 5 ∧ m ≤ tri a0 a1 a2 a3 a4 a5 a6 v 90 5 ∧
      m ≤ tri a0 a1 a2 a3 a4 a5 a6 v 5 90 ∧
      (0 ≤ a3 ∨ ((a0 - a1) * v + 95 * a3 + a4 - a5) * ((a0 - a1) * v + 95 * a3 + a4 - a5)
          ≤ 4 * -a3 * ((95 * a1 + a2) * v + 95 * a5 + a6 - m))) :
    m ≤ tri a0 a1 a2 a3 a4 a5 a6 u T U := by
  have key : ∀ v, v = u0 ∨ v = u1 → m ≤ tri a0 a1 a2 a3 a4 a5 a6 v T U := by
    intro v hv
    obtain ⟨h1, h2, h3, h4⟩ := h v hv
    refine tri_ge_triangle a0 a1 a2 a3 a4 a5 a6 m v T U hT hU hs h1 h2 (fun T hT hT90 => ?_)
    rw [tri_hyp]
    have e1 := tri_hyp a0 a1 a2 a3 a4 a5 a6 v 5
    have e2 := tri_hyp a0 a1 a2 a3 a4 a5 a6 v 90
    norm_num at e1 e2
    rcases le_or_gt 0 a3 with h0 | h0
    · exact quad_ge_concave _ _ _ 5 90 m T (by linarith) hT hT90 (by linarith) (by linarith)
    · exact quad_ge_convex _ _ _ m T (by linarith) (h4.resolve_left (not_le.2 h0))
  have k0 := key u0 (Or.inl rfl)
  have k1 := key u1 (Or.inr rfl)
  unfold tri at *
  have := affine_ge (a3 * T * U + a4 * T + a5 * U + a6) (a0 * T + a1 * U + a2) u0 u1 u m hu0 hu1
    (by linarith) (by linarith)
  linarith

theorem tri_sub (a0 a1 a2 a3 a4 a5 a6 b0 b1 b2 b3 b4 b5 b6 u T U : ℚ) :
    tri a0 a1 a2 a3 a4 a5 a6 u T U - tri b0 b1 b2 b3 b4 b5 b6 u T U =
      tri (a0 - b0) (a1 - b1) (a2 - b2) (a3 - b3) (a4 - b4) (a5 - b5) (a6 - b6) u T U := by
  unfold tri; ring

theorem one_sub_tri (a0 a1 a2 a3 a4 a5 a6 u T U : ℚ) :
    1 - tri a0 a1 a2 a3 a4 a5 a6 u T U = tri (-a0) (-a1) (-a2) (-a3) (-a4) (-a5) (1 - a6) u T U := by
  unfold tri; ring

theorem ptf1_eq_tri (c ton sluf : ℚ) :
    ptf1 c ton sluf =
      (tri 0.0008676 0.001442 (-0.1887) (-0.0000511) 0.004527 0.001535 0.2449 (1 / (c + 1)) ton sluf,
       tri 0.00233 0.0009498 (-0.0767) 0.00003853 0.002127 (-0.0008366) 0.09878 (1 / (c + 1)) ton sluf) := by
  unfold ptf1 tri
  simp only [lit1]
  ext <;> ring

/-- clay + silt ≤ 95 % is sand ≥ 5 %.  WP, FC − WP and 1 − FC are forms `tri` (`tri_sub`, `one_sub_tri`), so each bound is
`tri_ge` with the coefficients read off the goal; the kernel evaluates its conditions at the two ends of `u`. -/
theorem ptf1_bounds (c ton sluf : ℚ) (hc0 : 0 ≤ c) (hc6 : c ≤ 6) (ht : 5 ≤ ton) (hs : 5 ≤ sluf)
    (hsum : ton + sluf ≤ 95) :
    1 / 25 ≤ (ptf1 c ton sluf).2 ∧ 1 / 500 ≤ (ptf1 c ton sluf).1 - (ptf1 c ton sluf).2 ∧
      3 / 10 ≤ 1 - (ptf1 c ton sluf).1 := by
  have hpos : 0 < c + 1 := by linarith
  have hu1 : 1 / 7 ≤ 1 / (c + 1) := one_div_le_one_div_of_le hpos (by linarith)
  have hu2 : 1 / (c + 1) ≤ 1 := by rw [div_le_one hpos]; linarith
  rw [ptf1_eq_tri, tri_sub, one_sub_tri]
  refine ⟨?_, ?_, ?_⟩ <;> refine tri_ge _ _ _ _ _ _ _ _ (1 / 7) 1 _ ton sluf hu1 hu2 ht hs hsum ?_ <;>
    rintro v (rfl | rfl) <;> decide +kernel

end Hermes.SoilParams
