/-
The cursor of HermesModel/Schedule.lean (`runCursor`): a cursor over strictly ascending execution days fires
every slot exactly once, in order, on its day.  Fertiliser, irrigation, tillage and the crop records
are such cursors.  Core Lean only.
-/
import HermesModel.Schedule
import HermesProofs.ListLemmas
namespace Hermes.Schedule

theorem daysFrom_eq (b n : Nat) : daysFrom b n = List.range' b n := by
  fun_induction daysFrom b n with
  | case1 => rfl
  | case2 b n ih => rw [ih, List.range'_succ]

/-- The cursor standing at slot `k` fires the pending days `good` that lie in the period, in order; `tail` is what follows
them: a cell that can never match (unwritten = 0, or a day before `b`). -/
theorem runCursor_spec (ds : List Nat) (n k b : Nat) (good tail : List Nat)
    (hdrop : ds.drop k = good ++ tail) (hasc : good.Pairwise (· < ·)) (hge : ∀ d ∈ good, b ≤ d)
    (htail : tail.headD 0 < b) :
    runCursor ds k (daysFrom b n) = (good.takeWhile (fun d => decide (d < b + n))).zipIdx k := by
  fun_induction daysFrom b n generalizing k good with
  | case1 b =>
    cases good with
    | nil => rfl
    | cons d r => simp [runCursor, Nat.not_lt.mpr (hge d List.mem_cons_self)]
  | case2 b n ih =>
    rw [Nat.add_right_comm b 1 n] at ih
    rw [runCursor, getD_eq_headD_drop, hdrop]
    cases good with
    | nil =>
      -- the cell that never matches
      exact (if_neg (Nat.ne_of_gt htail)).trans (ih k [] hdrop hasc (fun _ h => nomatch h) (Nat.lt_succ_of_lt htail))
    | cons d r =>
      obtain ⟨hdr, hr⟩ := List.pairwise_cons.mp hasc
      have hbd : b ≤ d := hge d List.mem_cons_self
      by_cases hEq : b = d
      · subst hEq
        have hdrop' : ds.drop (k + 1) = r ++ tail := by rw [← List.drop_drop, hdrop]; rfl
        rw [List.takeWhile_cons_of_pos (by simp), List.zipIdx_cons]
        exact (if_pos rfl).trans (congrArg ((b, k) :: ·) (ih (k + 1) r hdrop' hr hdr (Nat.lt_succ_of_lt htail)))
      · refine (if_neg hEq).trans (ih k (d :: r) hdrop hasc (fun x hx => ?_) (Nat.lt_succ_of_lt htail))
        rcases List.mem_cons.mp hx with rfl | hx
        · omega
        · have := hdr x hx; omega

/-- The fertiliser and the tillage cursor: slot dates strictly ascending and not before the first simulated day, the
cleared cell behind them, execution on the day after the date. -/
theorem runCursor_next_day (dates : List Nat) (b n : Nat) (hb : 1 < b) (hasc : dates.Pairwise (· < ·))
    (hge : ∀ d ∈ dates, b ≤ d) :
    runCursor ((dates ++ [0]).map (· + 1)) 0 (daysFrom b n) =
      ((dates.map (· + 1)).takeWhile (fun d => decide (d < b + n))).zipIdx 0 := by
  apply runCursor_spec _ n 0 b _ [1]
  · simp
  · exact hasc.map _ fun _ _ h => Nat.succ_lt_succ h
  · intro d hd
    obtain ⟨y, hy, rfl⟩ := List.mem_map.mp hd
    have := hge y hy
    omega
  · simpa using hb

theorem runTillage_eq_runCursor (einte : List Nat) (days : List Nat) (k : Nat) (hz : ∀ z ∈ days, 1 < z) :
    runTillage (fun _ => false) k einte days = runCursor (tilExecDays einte) k days := by
  -- the cell read is `EINTE[k] + 1`; beyond the array both sides read 0 resp. 1, which no day `z > 1` equals
  have key : ∀ z k, 1 < z → ((z = einte.getD k 0 + 1) ↔ (z = (tilExecDays einte).getD k 0)) := by
    intro z k hz1
    unfold tilExecDays
    by_cases hk : k < einte.length
    · simp [List.getD_eq_getElem?_getD, hk]
    · simp [List.getD_eq_getElem?_getD, Nat.le_of_not_lt hk]
      omega
  induction days generalizing k with
  | nil => rfl
  | cons z r ih =>
    have hr : ∀ y ∈ r, 1 < y := fun y hy => hz y (by simp [hy])
    simp only [runTillage, runCursor, Bool.and_false, Bool.false_eq_true, if_false, key z k (hz z (by simp)), ih _ hr]

theorem daysFrom_gt (b n c : Nat) (hc : c < b) : ∀ z ∈ daysFrom b n, c < z := by
  intro z hz
  rw [daysFrom_eq] at hz
  exact Nat.lt_of_lt_of_le hc (List.mem_range'_1.mp hz).1

end Hermes.Schedule
