/-
Per-layer bounds of the water content after one call of `Water` (HermesModel/Water.lean) over ℚ: the
three cascades as `List.Forall₂` between the layers before and after (with the generic `forall₂_getElem?`,
`forall₂_map_self`), the capillary rise and the uptake by layer index.
-/
import HermesProofs.Water
import HermesProofs.SumFrom

namespace Hermes.Water

theorem forall₂_getElem? {α β : Type} {R : α → β → Prop} {l : List α} {l' : List β}
    (h : List.Forall₂ R l l') {j : ℕ} {x : β} (hx : l'[j]? = some x) : ∃ t, l[j]? = some t ∧ R t x := by
  obtain ⟨hl, hR⟩ := List.forall₂_iff_get.mp h
  obtain ⟨hj, rfl⟩ := List.getElem?_eq_some_iff.mp hx
  exact ⟨l[j]'(hl ▸ hj), List.getElem?_eq_getElem _, hR j _ hj⟩

theorem forall₂_map_self {α β : Type} {R : α → β → Prop} (f : α → β) (l : List α) (h : ∀ t, R t (f t)) :
    List.Forall₂ R l (l.map f) :=
  List.forall₂_map_right_iff.mpr (List.forall₂_same.mpr fun t _ => h t)

theorem zip3_getElem? (a b c : List ℚ) (j : ℕ) (t : ℚ × ℚ × ℚ) :
    (zip3 a b c)[j]? = some t ↔ a[j]? = some t.1 ∧ b[j]? = some t.2.1 ∧ c[j]? = some t.2.2 := by
  rw [zip3_eq_zip, List.getElem?_zip_eq_some, List.getElem?_zip_eq_some]

theorem overflow_forall₂ (dz : ℚ) (hdz : 0 < dz) (l : List (ℚ × ℚ × ℚ)) (carry : Option ℚ)
    (hc : ∀ c, carry = some c → 0 ≤ c) :
    List.Forall₂ (fun t a => a.1 ≤ t.2.1 * dz ∧ (a.1 = t.2.1 * dz ∨ t.1 ≤ a.1)) l (overflow dz carry l).1 := by
  fun_induction overflow dz carry l with
  | case1 => exact .nil
  | case2 carry wa0 w q rest wa hlt sink r ih =>
    exact .cons ⟨le_refl _, Or.inl rfl⟩ (ih fun c hc' => by cases hc'; linarith [(lt_div_iff₀ hdz).mp hlt])
  | case3 carry wa0 w q rest wa hlt r ih =>
    refine .cons ⟨(div_le_iff₀ hdz).mp (not_lt.mp hlt), Or.inr ?_⟩ (ih fun c hc' => by cases hc')
    cases carry with
    | none => exact le_refl _
    | some c => exact le_add_of_nonneg_right (hc c rfl)

theorem infil_forall₂ (dz : ℚ) (dd : ℕ) (df : ℚ) (hdf1 : df ≤ 1) (l : List (ℚ × ℚ)) (a : ℚ) (k : ℕ) (ha : 0 ≤ a) :
    List.Forall₂ (fun t x => x = t.2 * dz ∨ t.1 ≤ x) l (infil dz dd df a k l).1 := by
  fun_induction infil dz dd df a k l with
  | case1 => exact .nil
  | case2 a k wa w rest b a' hneg =>
    exact .cons (Or.inr (le_add_of_nonneg_left ha)) (forall₂_map_self _ rest fun t => Or.inr (le_refl _))
  | case3 a k wa w rest b a' hneg aOut qd r ih =>
    refine .cons (Or.inl rfl) (ih ?_)
    simp only [aOut]
    split_ifs
    · exact mul_nonneg (by linarith) (not_lt.mp hneg)
    · exact not_lt.mp hneg

theorem evapLayer_limit (dz wdt : ℚ) (carry : Option ℚ) (wa wmin ev0 : ℚ) :
    wmin / 3 * dz ≤ wa - (evapLayer dz wdt carry wa wmin ev0).2.2 := by
  unfold evapLayer
  simp only
  split_ifs with h
  · rw [sub_sub_cancel]
  · rw [sub_sub_cancel]
    exact not_lt.mp h

theorem evap_forall₂ (dz wdt : ℚ) (l : List (ℚ × ℚ × ℚ)) (a1 : ℚ) (carry : Option ℚ) :
    List.Forall₂ (fun t x => t.2.1 / 3 * dz ≤ x ∨ x = t.1) l (evap dz wdt a1 carry l).1 := by
  fun_induction evap dz wdt a1 carry l with
  | case1 => exact .nil
  | case2 a1 carry wa wmin ev0 rest e hbr =>
    have hl := evapLayer_limit dz wdt carry wa wmin ev0
    exact .cons (Or.inl (by simp only [e] at hbr; linarith)) (forall₂_map_self _ rest fun t => Or.inr rfl)
  | case3 a1 carry wa wmin ev0 rest e hbr r ih =>
    exact .cons (Or.inl (evapLayer_limit dz wdt carry wa wmin ev0)) ih

theorem limitTp_get (dz : ℚ) : ∀ (tp wg wmin : List ℚ) (j : ℕ) (t : ℚ), (limitTp dz tp wg wmin)[j]? = some t →
    ∃ t0 g m, tp[j]? = some t0 ∧ wg[j]? = some g ∧ wmin[j]? = some m ∧ t = limTp dz g m t0 := fun tp wg wmin j t h => by
  rw [limitTp_zipWith, List.getElem?_zipWith_eq_some] at h
  obtain ⟨t0, p, ht0, hp, rfl⟩ := h
  obtain ⟨hg, hm⟩ := List.getElem?_zip_eq_some.mp hp
  exact ⟨t0, p.1, p.2, ht0, hg, hm, rfl⟩

/-- layer-wise hypotheses on two lists given by index are hypotheses on the zipped list (decidable) -/
theorem forall_getElem?_of_zip {l₁ l₂ : List ℚ} {P : ℚ → ℚ → Prop} (h : ∀ p ∈ l₁.zip l₂, P p.1 p.2)
    (j : ℕ) (g m : ℚ) (hg : l₁[j]? = some g) (hm : l₂[j]? = some m) : P g m :=
  h (g, m) (List.mem_iff_getElem?.2 ⟨j, List.getElem?_zip_eq_some.2 ⟨hg, hm⟩⟩)

theorem mul_le_of_le_one_right_or_nonpos {t s w : ℚ} (hw0 : 0 ≤ w) (hw1 : w ≤ 1) (hs : 0 ≤ s) (ht : t ≤ s) :
    t * w ≤ s := by
  by_cases h : 0 ≤ t
  · exact (mul_le_of_le_one_right h hw1).trans ht
  · exact (mul_nonpos_of_nonpos_of_nonneg (not_le.mp h).le hw0).trans hs

/-- the limited uptake takes at most the store above the wilting point (or nothing) and the sub-step is at most a day,
so a layer that holds a third of its wilting point keeps it -/
theorem limTp_keeps {dz wdt g m : ℚ} (t : ℚ) (hdz : 0 ≤ dz) (hw0 : 0 ≤ wdt) (hw1 : wdt ≤ 1) (hm : 0 ≤ m) (hg : m / 3 ≤ g) :
    m / 3 * dz ≤ g * dz - limTp dz g m t * wdt := by
  have hL : m / 3 * dz ≤ g * dz := mul_le_mul_of_nonneg_right hg hdz
  have hM : m / 3 * dz ≤ m * dz := mul_le_mul_of_nonneg_right (by linarith only [hm]) hdz
  refine le_sub_comm.mp ((mul_le_of_le_one_right_or_nonpos hw0 hw1 (le_max_right _ _) (limTp_le dz g m t)).trans
    (max_le ?_ (sub_nonneg.mpr hL)))
  rw [sub_mul]
  exact sub_le_sub_left hM _

/-- capillary-rise increment (cm of water) that this call adds to layer `j` (0-based) -/
noncomputable def capInc (i : In ℚ) (j : ℕ) : ℚ :=
  match capRise i.dz i.wdt i.grw i.caps (capLayer i.nfk) with
  | some c => if j = capLayer i.nfk - 1 then c else 0
  | none => 0

theorem capInc_nonneg (i : In ℚ) (j : ℕ) (hdz : 0 ≤ i.dz) (hwdt : 0 ≤ i.wdt) (hcaps : ∀ c ∈ i.caps, 0 ≤ c) :
    0 ≤ capInc i j := by
  unfold capInc
  cases hcr : capRise i.dz i.wdt i.grw i.caps (capLayer i.nfk) with
  | none => exact le_refl _
  | some c =>
    obtain ⟨_, idx, rfl⟩ := capRise_some hcr
    simp only
    split_ifs
    · exact mul_nonneg (mul_nonneg (getD_of_all hcaps le_rfl _) hdz) hwdt
    · exact le_refl _

theorem capillary_get (i : In ℚ) (wa2 qs2 : List ℚ) (j : ℕ) (a : ℚ)
    (h : (phaseCapillary i wa2 qs2).1[j]? = some a) :
    ∃ b, wa2[j]? = some b ∧ a = b + capInc i j := by
  unfold capInc
  cases hcr : capRise i.dz i.wdt i.grw i.caps (capLayer i.nfk) with
  | none =>
    rw [phaseCapillary_none i _ _ hcr] at h
    exact ⟨a, h, (add_zero a).symm⟩
  | some c =>
    rw [phaseCapillary_some i _ _ hcr, addAt_modify, List.getElem?_modify] at h
    obtain ⟨b, hb, rfl⟩ := Option.map_eq_some_iff.mp h
    exact ⟨b, hb, by simp only [eq_comm (a := j)]; split_ifs <;> simp⟩

/-- layer `j` after one call: `y` what the surface phase left, `p` what the overflow pass left (at
most field capacity `w`; exactly that, or at least `y`), then the capillary increment -/
theorem wg1_get (i : In ℚ) (hdz : 0 < i.dz) (j : ℕ) (x : ℚ) (h : (step i).wg1[j]? = some x) :
    ∃ y w p, (surfOf i).wa1[j]? = some y ∧ i.w[j]? = some w ∧ p ≤ w * i.dz ∧ (p = w * i.dz ∨ y ≤ p) ∧
      x = (p + capInc i j) / i.dz := by
  rw [step_wg1, List.getElem?_map] at h
  obtain ⟨a, ha, rfl⟩ := Option.map_eq_some_iff.mp h
  obtain ⟨b, hb, rfl⟩ := capillary_get i _ _ j a ha
  simp only [phaseOverflow, List.getElem?_map] at hb
  obtain ⟨p, hp, rfl⟩ := Option.map_eq_some_iff.mp hb
  obtain ⟨t, ht, hle, hor⟩ := forall₂_getElem? (overflow_forall₂ i.dz hdz _ none fun c hc => by cases hc) hp
  obtain ⟨hy, hw, _⟩ := (zip3_getElem? _ _ _ j t).mp ht
  exact ⟨t.1, t.2.1, p.1, hy, hw, hle, hor, rfl⟩

end Hermes.Water
