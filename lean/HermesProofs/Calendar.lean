/-
The calendar model in two layers.  A day number is day `doy` of the year `1900 + j` (`IsDay`, which bears the
namespace of the weather model whose statements speak of it); the year estimate of KalenderDate inverts that.  A day
of the year is day `tg` of month `mon` (the month tables against the month lengths); the month search inverts that.
Together: `kalenderDate` and `masdat` are inverse bijections between the dates of 1901 … 2099 and the day numbers
1 … 72 684.  Core Lean only.
-/
import HermesModel.Calendar

namespace Hermes.Weather

/-- days of the calendar year 1900 + j (1901 … 2099) -/
def diy (j : Nat) : Nat := if j % 4 = 0 then 366 else 365

theorem diy_ge (j : Nat) : 365 ≤ diy j := by unfold diy; split <;> omega
theorem diy_le (j : Nat) : diy j ≤ 366 := by unfold diy; split <;> omega

end Hermes.Weather

namespace Hermes.Calendar
open Hermes.Weather (diy)

/-- A calendar date of the range the property quantifies over, as (year offset, month, day). -/
def ValidDate (yr mon tg : Nat) : Prop :=
  1 ≤ yr ∧ yr ≤ 199 ∧ 1 ≤ mon ∧ mon ≤ 12 ∧ 1 ≤ tg ∧ tg ≤ daysInMonth yr mon

theorem ValidDate.mon_pos {yr mon tg : Nat} (h : ValidDate yr mon tg) : 1 ≤ mon := h.2.2.1
theorem ValidDate.mon_le {yr mon tg : Nat} (h : ValidDate yr mon tg) : mon ≤ 12 := h.2.2.2.1
theorem ValidDate.tg_pos {yr mon tg : Nat} (h : ValidDate yr mon tg) : 1 ≤ tg := h.2.2.2.2.1
theorem ValidDate.tg_le {yr mon tg : Nat} (h : ValidDate yr mon tg) : tg ≤ daysInMonth yr mon := h.2.2.2.2.2

/-- representative year offsets: 4 (leap) and 1 (non-leap) -/
def rep (yr : Nat) : Nat := if yr % 4 = 0 then 4 else 1

theorem rep_mem (yr : Nat) : rep yr ∈ [1, 4] := by unfold rep; split <;> simp

theorem rep_leap (yr : Nat) : (rep yr % 4 == 0) = (yr % 4 == 0) := by
  unfold rep; split <;> simp [*]

theorem monthOffset_rep (yr mon : Nat) : monthOffset yr mon = monthOffset (rep yr) mon := by
  unfold monthOffset; rw [rep_leap]
theorem daysInMonth_rep (yr mon : Nat) : daysInMonth yr mon = daysInMonth (rep yr) mon := by
  unfold daysInMonth; rw [rep_leap]
theorem diy_rep (yr : Nat) : diy yr = diy (rep yr) := by
  unfold diy rep; split <;> rfl
theorem korr_rep {yr : Nat} (h : 1 ≤ yr) (d : Nat) : korr (yr - 1) d = korr (rep yr - 1) d := by
  unfold korr rep; rw [Nat.sub_add_cancel h]; split <;> rfl

/-- decided for one non-leap and one leap year; `month_facts` carries it to every year through `rep` -/
theorem month_table : ∀ y ∈ [1, 4], ∀ m ∈ List.range 13, 1 ≤ m →
    1 ≤ daysInMonth y m ∧ daysInMonth y m ≤ 31 ∧
    monthOffset y m + daysInMonth y m = if m = 12 then diy y else monthOffset y (m + 1) := by
  decide

theorem month_facts (yr mon : Nat) (h1 : 1 ≤ mon) (h2 : mon ≤ 12) :
    1 ≤ daysInMonth yr mon ∧ daysInMonth yr mon ≤ 31 ∧
    monthOffset yr mon + daysInMonth yr mon = if mon = 12 then diy yr else monthOffset yr (mon + 1) := by
  rw [daysInMonth_rep, monthOffset_rep, monthOffset_rep yr (mon + 1), diy_rep]
  exact month_table _ (rep_mem yr) mon (List.mem_range.mpr (by omega)) h1

/-- what is decided for the dates of the two representative years holds of every valid date, seen in its representative year -/
theorem ValidDate.of_table {P : Nat → Nat → Nat → Prop}
    (table : ∀ y ∈ [1, 4], ∀ mon ∈ List.range 13, ∀ tg ∈ List.range 32,
      1 ≤ mon → 1 ≤ tg → tg ≤ daysInMonth y mon → P y mon tg)
    {yr mon tg : Nat} (h : ValidDate yr mon tg) : P (rep yr) mon tg := by
  obtain ⟨_, _, hm1, hm2, ht1, ht2⟩ := h
  have := (month_facts yr mon hm1 hm2).2.1
  exact table _ (rep_mem yr) _ (List.mem_range.mpr (by omega)) _ (List.mem_range.mpr (by omega)) hm1 ht1
    (daysInMonth_rep yr mon ▸ ht2)

theorem monthOffset_jan (yr : Nat) : monthOffset yr 1 = 0 := by
  simp [monthOffset, mtStart]

theorem monthOffset_succ (yr mon : Nat) (hm1 : 1 ≤ mon) (hm2 : mon < 12) :
    monthOffset yr (mon + 1) = monthOffset yr mon + daysInMonth yr mon := by
  have := (month_facts yr mon hm1 (by omega)).2.2
  rw [if_neg (by omega)] at this
  exact this.symm

theorem monthOffset_dec (yr : Nat) : monthOffset yr 12 + daysInMonth yr 12 = diy yr :=
  (month_facts yr 12 (by omega) (by omega)).2.2

theorem monthOffset_mono (yr : Nat) {m m' : Nat} (h1 : 1 ≤ m) (hlt : m < m') (h2 : m' ≤ 12) :
    monthOffset yr m + daysInMonth yr m ≤ monthOffset yr m' := by
  induction m' with
  | zero => omega
  | succ k ih =>
    rw [monthOffset_succ yr k (by omega) (by omega)]
    by_cases hk : m = k
    · subst hk; exact Nat.le_refl _
    · exact Nat.le_trans (ih (by omega) (by omega)) (Nat.le_add_right ..)

theorem monthOffset_eq_sum (yr k : Nat) (hk : k < 12) :
    monthOffset yr (k + 1) = ((List.range k).map fun i => daysInMonth yr (i + 1)).sum := by
  induction k with
  | zero => exact monthOffset_jan yr
  | succ m ih =>
    rw [monthOffset_succ yr (m + 1) (by omega) hk, ih (by omega), List.range_succ, List.map_append,
      List.sum_append]
    simp

theorem doy_bound {yr mon tg : Nat} (h : ValidDate yr mon tg) : 1 ≤ ztdat yr mon tg ∧ ztdat yr mon tg ≤ diy yr := by
  obtain ⟨_, _, hm1, hm2, ht1, ht2⟩ := h
  have hdec := monthOffset_dec yr
  unfold ztdat
  by_cases h12 : mon = 12
  · subst h12; omega
  · have := monthOffset_mono yr hm1 (show mon < 12 by omega) (Nat.le_refl _)
    omega

theorem masdat_jan1 (j : Nat) : masdat j 1 1 = (j - 1) * 365 + (j - 1) / 4 + 1 := by
  simp [masdat, monthOffset_jan]

theorem masdat_eq_jan1_add (yr mon tg : Nat) : masdat yr mon tg + 1 = masdat yr 1 1 + ztdat yr mon tg := by
  rw [masdat_jan1]; unfold masdat ztdat; omega

end Hermes.Calendar

namespace Hermes.Weather
open Hermes.Calendar

theorem masdat_next_year (j : Nat) (hj : 1 ≤ j) : masdat (j + 1) 1 1 = masdat j 1 1 + diy j := by
  rw [masdat_jan1, masdat_jan1]; unfold diy; split <;> omega

theorem jan1_add_diy_le {j j' : Nat} (h1 : 1 ≤ j) (h : j < j') : masdat j 1 1 + diy j ≤ masdat j' 1 1 := by
  rw [masdat_jan1, masdat_jan1]; unfold diy; split <;> omega

/-- day `doy` of year `1900 + j` has day number `z` (1901 … 2099) -/
def IsDay (z j doy : Nat) : Prop :=
  1 ≤ j ∧ j ≤ 199 ∧ 1 ≤ doy ∧ doy ≤ diy j ∧ z + 1 = masdat j 1 1 + doy

theorem IsDay.doy_pos {z j doy : Nat} (h : IsDay z j doy) : 1 ≤ doy := h.2.2.1
theorem IsDay.doy_le {z j doy : Nat} (h : IsDay z j doy) : doy ≤ diy j := h.2.2.2.1
theorem IsDay.eq {z j doy : Nat} (h : IsDay z j doy) : z + 1 = masdat j 1 1 + doy := h.2.2.2.2

theorem IsDay.range {z j doy : Nat} (h : IsDay z j doy) : 1 ≤ z ∧ z ≤ 72684 := by
  obtain ⟨h1, h2, h3, h4, h5⟩ := h
  rw [masdat_jan1] at h5
  unfold diy at h4
  split at h4 <;> omega

theorem isDay_of_date {yr mon tg : Nat} (h : ValidDate yr mon tg) : IsDay (masdat yr mon tg) yr (ztdat yr mon tg) :=
  ⟨h.1, h.2.1, (doy_bound h).1, (doy_bound h).2, masdat_eq_jan1_add yr mon tg⟩

theorem isDay_lt {z j doy z' j' doy' : Nat} (h : IsDay z j doy) (h' : IsDay z' j' doy')
    (hlt : j < j' ∨ (j = j' ∧ doy < doy')) : z < z' := by
  obtain ⟨a1, _, _, a4, a5⟩ := h
  obtain ⟨_, _, b3, _, b5⟩ := h'
  rcases hlt with hj | ⟨rfl, hd⟩
  · have := jan1_add_diy_le a1 hj
    omega
  · omega

theorem isDay_year_mono {z j doy z' j' doy' : Nat} (h : IsDay z j doy) (h' : IsDay z' j' doy') (hz : z ≤ z') : j ≤ j' :=
  Nat.le_of_not_lt fun hlt => Nat.not_lt.mpr hz (isDay_lt h' h (Or.inl hlt))

theorem isDay_unique {z j doy j' doy' : Nat} (h : IsDay z j doy) (h' : IsDay z j' doy') : j = j' ∧ doy = doy' := by
  obtain rfl : j = j' :=
    Nat.le_antisymm (isDay_year_mono h h' (Nat.le_refl _)) (isDay_year_mono h' h (Nat.le_refl _))
  have := h.eq
  have := h'.eq
  exact ⟨rfl, by omega⟩

/-- the year estimate and its leap correction in KalenderDate (helper.go:264-268) -/
theorem IsDay.year_doy {z j doy : Nat} (h : IsDay z j doy) : yearIdx z = j - 1 ∧ dayOfYear z = doy := by
  obtain ⟨h1, h2, h3, h4, h5⟩ := h
  rw [masdat_jan1] at h5
  unfold diy at h4
  have hy : yearIdx z = j - 1 := by
    unfold yearIdx
    split at h4 <;> split <;> omega
  exact ⟨hy, by unfold dayOfYear; rw [hy]; omega⟩

end Hermes.Weather

namespace Hermes.Calendar
open Hermes.Weather (isDay_of_date masdat_next_year)

theorem search_table : ∀ y ∈ [1, 4], ∀ mon ∈ List.range 13, ∀ tg ∈ List.range 32,
    1 ≤ mon → 1 ≤ tg → tg ≤ daysInMonth y mon →
    monthSearch (monthOffset y mon + tg) (korr (y - 1) (monthOffset y mon + tg)) mtEnd 1 0 =
      some (mon, monthOffset y mon) := by
  decide +kernel

theorem search_spec {yr mon tg : Nat} (h : ValidDate yr mon tg) :
    monthSearch (ztdat yr mon tg) (korr (yr - 1) (ztdat yr mon tg)) mtEnd 1 0 = some (mon, monthOffset yr mon) := by
  rw [korr_rep h.1, ztdat, monthOffset_rep]
  exact h.of_table search_table

theorem kalender_masdat {yr mon tg : Nat} (h : ValidDate yr mon tg) :
    kalenderDate (masdat yr mon tg) = some (yr + 1900, mon, tg) := by
  obtain ⟨hY, hD⟩ := (isDay_of_date h).year_doy
  simp only [kalenderDate, hY, hD, search_spec h]
  have := h.1
  have ht : (if mon > 1 then ztdat yr mon tg - monthOffset yr mon else ztdat yr mon tg) = tg := by
    unfold ztdat
    split
    · omega
    · rw [show mon = 1 by have := h.mon_pos; omega, monthOffset_jan]; omega
  rw [ht, show yr - 1 + 1900 + 1 = yr + 1900 by omega]

def nextDate (d : Nat × Nat × Nat) : Nat × Nat × Nat :=
  let (yr, mon, tg) := d
  if tg < daysInMonth yr mon then (yr, mon, tg + 1)
  else if mon < 12 then (yr, mon + 1, 1) else (yr + 1, 1, 1)

theorem nextDate_spec (yr mon tg a b c : Nat) (h : ValidDate yr mon tg) (hn : nextDate (yr, mon, tg) = (a, b, c)) :
    masdat a b c = masdat yr mon tg + 1 ∧ (masdat yr mon tg < 72684 → ValidDate a b c) := by
  obtain ⟨hy1, hy2, hm1, hm2, ht1, ht2⟩ := h
  unfold nextDate at hn
  simp only at hn
  split at hn
  · cases hn
    exact ⟨by unfold masdat; omega, fun _ => ⟨hy1, hy2, hm1, hm2, by omega, by omega⟩⟩
  · split at hn <;> cases hn
    · rename_i h2
      exact ⟨by unfold masdat; rw [monthOffset_succ yr mon hm1 h2]; omega,
        fun _ => ⟨hy1, hy2, by omega, by omega, by omega, (month_facts yr (mon + 1) (by omega) (by omega)).1⟩⟩
    · -- 31 December: not of 2099, whose day number is the last one
      obtain rfl : mon = 12 := by omega
      have hd := monthOffset_dec yr
      have he := masdat_eq_jan1_add yr 12 tg
      unfold ztdat at he
      have e : masdat (yr + 1) 1 1 = masdat yr 12 tg + 1 := by rw [masdat_next_year yr hy1]; omega
      refine ⟨e, fun hlast => ?_⟩
      have : yr < 199 := by rw [masdat_jan1] at e; omega
      exact ⟨by omega, by omega, by omega, by omega, by omega, (month_facts (yr + 1) 1 (by omega) (by omega)).1⟩

theorem masdat_surj (m : Nat) (h1 : 1 ≤ m) (h2 : m ≤ 72684) :
    ∃ yr mon tg, ValidDate yr mon tg ∧ masdat yr mon tg = m := by
  induction m with
  | zero => omega
  | succ k ih =>
    by_cases hk : k = 0
    · subst hk; exact ⟨1, 1, 1, by simp [ValidDate, daysInMonth], by simp [masdat, monthOffset, mtStart]⟩
    · obtain ⟨yr, mon, tg, hv, hm⟩ := ih (by omega) (by omega)
      rcases hn : nextDate (yr, mon, tg) with ⟨a, b, c⟩
      obtain ⟨e, hv'⟩ := nextDate_spec yr mon tg a b c hv hn
      exact ⟨a, b, c, hv' (by omega), by rw [e, hm]⟩

theorem kalender_of_range (z : Nat) (h1 : 1 ≤ z) (h2 : z ≤ 72684) :
    ∃ yr mon tg, ValidDate yr mon tg ∧ kalenderDate z = some (yr + 1900, mon, tg) ∧
      masdat yr mon tg = z := by
  obtain ⟨yr, mon, tg, hv, hm⟩ := masdat_surj z h1 h2
  exact ⟨yr, mon, tg, hv, by rw [← hm]; exact kalender_masdat hv, hm⟩

theorem kalender_inv {z y mon tg : Nat} (h1 : 1 ≤ z) (h2 : z ≤ 72684) (hk : kalenderDate z = some (y, mon, tg)) :
    ValidDate (y - 1900) mon tg ∧ masdat (y - 1900) mon tg = z := by
  obtain ⟨yr, mon', tg', hv, hk', hm⟩ := kalender_of_range z h1 h2
  cases hk.symm.trans hk'
  rw [Nat.add_sub_cancel]
  exact ⟨hv, hm⟩

theorem digitVal_digit_lt : ∀ j, j < 10 → digitVal? (Char.ofNat (48 + j)) = some j := by decide

theorem digitVal_digit (k : Nat) : digitVal? (digit k) = some (k % 10) := by
  unfold digit
  have := digitVal_digit_lt (k % 10) (Nat.mod_lt _ (by omega))
  simpa using this

theorem parse_d2 (n : Nat) (h : n < 100) : parseNat? (d2 n) = some n := by
  simp [parseNat?, d2, digitVal_digit]; omega

theorem parse_d4 (n : Nat) (h : n < 10000) : parseNat? (d4 n) = some n := by
  simp [parseNat?, d4, digitVal_digit]; omega

theorem extractDate_render (a b y : Nat) (sep Y : List Char) (hsep : sep.length ≤ 1) (short : Bool)
    (hY : Y.length = if short then 2 else 4) (ha : a < 100) (hb : b < 100) (hy : parseNat? Y = some y) :
    extractDate (d2 a ++ sep ++ d2 b ++ sep ++ Y) short = some (a, b, y) := by
  have pa := parse_d2 a ha
  have pb := parse_d2 b hb
  unfold d2 at pa pb ⊢
  match sep, hsep with
  | [], _ | [c], _ =>
    cases short
    · match Y, hY with
      | [y1, y2, y3, y4], _ => simp [extractDate, slice, pa, pb, hy]
    · match Y, hY with
      | [y1, y2], _ => simp [extractDate, slice, pa, pb, hy]

end Hermes.Calendar
