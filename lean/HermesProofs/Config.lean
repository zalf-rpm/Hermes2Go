/-
The configuration overlay (C14): one override step and the whole loop as functions of a lookup.  Steps with
different keys commute, so the random order of the Go map range is irrelevant.  Core Lean only.
-/
import HermesModel.Config
namespace Hermes.Config

theorem lookup_cons {β : Type} (n : String) (x : β) (r : List (String × β)) (k : String) :
    lookup ((n, x) :: r) k = if n = k then some x else lookup r k := rfl

theorem lookup_eq_none_iff {β : Type} (t : List (String × β)) (k : String) :
    lookup t k = none ↔ k ∉ t.map (·.1) := by
  fun_induction lookup t k with
  | case1 => simp
  | case2 => simp
  | case3 n x r k h ih => simp [ih, Ne.symm h]

section
variable {F : Type} (pf : String → Option F)

theorem overrideKey_cons (n : String) (x : Val F) (r : Table F) (k v : String) :
    overrideKey pf ((n, x) :: r) k v =
      if n = k then (overrideVal pf x v).map fun y => (n, y) :: r
      else (overrideKey pf r k v).map fun r' => (n, x) :: r' := rfl

theorem overrideKey_keys (t t' : Table F) (k v : String) (h : overrideKey pf t k v = some t') :
    t'.map (·.1) = t.map (·.1) := by
  fun_induction overrideKey pf t k v generalizing t' with
  | case1 => cases h; rfl
  | case2 x r n v =>
    obtain ⟨y, -, rfl⟩ := Option.map_eq_some_iff.mp h
    rfl
  | case3 n x r k v hn ih =>
    obtain ⟨r', hr, rfl⟩ := Option.map_eq_some_iff.mp h
    simp [ih r' hr]

theorem lookup_overrideKey (t t' : Table F) (k v : String) (h : overrideKey pf t k v = some t')
    (k' : String) :
    lookup t' k' = if k' = k then (lookup t k).bind (overrideVal pf · v) else lookup t k' := by
  fun_induction overrideKey pf t k v generalizing t' with
  | case1 => cases h; split <;> rfl
  | case2 x r n v =>
    obtain ⟨y, hv, rfl⟩ := Option.map_eq_some_iff.mp h
    by_cases hk : k' = n
    · simp [lookup_cons, hk, hv]
    · simp [lookup_cons, hk, Ne.symm hk]
  | case3 n x r k v hn ih =>
    obtain ⟨r', hr, rfl⟩ := Option.map_eq_some_iff.mp h
    rw [lookup_cons, lookup_cons, lookup_cons, ih r' hr, if_neg hn]
    by_cases hk : k' = k
    · subst hk; simp [hn]
    · simp [hk]

/-- A step changes nothing when its key is unknown or holds a value that the text reads back to. -/
theorem overrideKey_fixed (t : Table F) (k v : String)
    (h : ∀ x, lookup t k = some x → overrideVal pf x v = some x) : overrideKey pf t k v = some t := by
  fun_induction overrideKey pf t k v with
  | case1 => rfl
  | case2 x r n v => rw [h x (if_pos rfl)]; rfl
  | case3 n x r k v hn ih => rw [lookup_cons, if_neg hn] at h; rw [ih h]; rfl

theorem overrideKey_unknown (t : Table F) (k v : String) (h : k ∉ t.map (·.1)) :
    overrideKey pf t k v = some t :=
  overrideKey_fixed pf t k v fun x hx => by rw [(lookup_eq_none_iff t k).mpr h] at hx; cases hx

theorem overrideKey_comm_head (n : String) (x : Val F) (r : Table F) (v1 k2 v2 : String) (h2 : ¬ n = k2) :
    (overrideKey pf ((n, x) :: r) n v1).bind (fun t' => overrideKey pf t' k2 v2) =
    (overrideKey pf ((n, x) :: r) k2 v2).bind (fun t' => overrideKey pf t' n v1) := by
  rw [overrideKey_cons, if_pos rfl, overrideKey_cons, if_neg h2]
  cases hv : overrideVal pf x v1 <;> cases hr : overrideKey pf r k2 v2 <;> simp [overrideKey_cons, h2, hv, hr]

theorem overrideKey_comm (t : Table F) (k1 v1 k2 v2 : String) (hne : k1 ≠ k2) :
    (overrideKey pf t k1 v1).bind (fun t' => overrideKey pf t' k2 v2) =
    (overrideKey pf t k2 v2).bind (fun t' => overrideKey pf t' k1 v1) := by
  induction t with
  | nil => rfl
  | cons e r ih =>
    obtain ⟨n, x⟩ := e
    by_cases h1 : n = k1
    · subst h1; exact overrideKey_comm_head pf n x r v1 k2 v2 hne
    · by_cases h2 : n = k2
      · subst h2; exact (overrideKey_comm_head pf n x r v2 k1 v1 h1).symm
      · -- neither step sees the head, which moves out of both binds
        simpa only [overrideKey_cons, if_neg h1, if_neg h2, Option.bind_map, Option.map_bind, Function.comp_def]
          using congrArg (Option.map fun r' => (n, x) :: r') ih

theorem overrideAll_cons (t : Table F) (e : String × String) (m : List (String × String)) :
    overrideAll pf t (e :: m) = (overrideKey pf t e.1 e.2).bind fun t' => overrideAll pf t' m := by
  cases h : overrideKey pf t e.1 e.2 <;> simp [overrideAll, h]

theorem overrideAll_singleton (t : Table F) (k v : String) : overrideAll pf t [(k, v)] = overrideKey pf t k v := by
  cases h : overrideKey pf t k v <;> simp [overrideAll, h]

theorem overrideAll_append (t : Table F) (m1 m2 : List (String × String)) :
    overrideAll pf t (m1 ++ m2) = (overrideAll pf t m1).bind fun t' => overrideAll pf t' m2 := by
  induction m1 generalizing t with
  | nil => rfl
  | cons e m ih =>
    rw [List.cons_append, overrideAll_cons, overrideAll_cons, Option.bind_assoc]
    congr 1; funext t'; exact ih t'

theorem overrideAll_keys (t t' : Table F) (m : List (String × String))
    (h : overrideAll pf t m = some t') : t'.map (·.1) = t.map (·.1) := by
  fun_induction overrideAll pf t m with
  | case1 => cases h; rfl
  | case2 => cases h
  | case3 t k v m t1 h1 ih => rw [ih h, overrideKey_keys pf t t1 _ _ h1]

theorem overrideAll_perm (m1 m2 : List (String × String)) (hp : m1.Perm m2)
    (hnd : (m1.map (·.1)).Nodup) (t : Table F) : overrideAll pf t m1 = overrideAll pf t m2 := by
  induction hp generalizing t with
  | nil => rfl
  | cons x _ ih =>
    rw [overrideAll_cons, overrideAll_cons]
    congr 1; funext t1; exact ih (List.nodup_cons.mp hnd).2 t1
  | swap x y l =>
    have hne : y.1 ≠ x.1 := fun e => (List.nodup_cons.mp hnd).1 (by simp [e])
    simp only [overrideAll_cons, ← Option.bind_assoc]
    rw [overrideKey_comm pf t y.1 y.2 x.1 x.2 hne]
  | trans h1 _ ih1 ih2 => rw [ih1 hnd t, ih2 ((h1.map (·.1)).nodup_iff.mp hnd) t]

theorem lookup_overrideAll (m : List (String × String)) (hnd : (m.map (·.1)).Nodup) (t t' : Table F)
    (h : overrideAll pf t m = some t') (k : String) :
    lookup t' k = match lookup m k with
                  | none => lookup t k
                  | some v => (lookup t k).bind (overrideVal pf · v) := by
  fun_induction overrideAll pf t m with
  | case1 => cases h; rfl
  | case2 => cases h
  | case3 t k0 v0 m t1 h1 ih =>
    have hnd' : k0 ∉ m.map (·.1) ∧ (m.map (·.1)).Nodup := List.nodup_cons.mp hnd
    have hi := ih hnd'.2 h
    have hl := lookup_overrideKey pf t t1 k0 v0 h1 k
    by_cases hk : k0 = k
    · subst hk
      -- the key occurs once in the map: the rest of the loop leaves the field alone
      rw [(lookup_eq_none_iff m k0).mpr hnd'.1] at hi
      simp [lookup_cons, hi, hl]
    · rw [if_neg (Ne.symm hk)] at hl
      rw [lookup_cons, if_neg hk, hi, hl]

theorem overrideVal_idem (x y : Val F) (v : String) (h : overrideVal pf x v = some y) :
    overrideVal pf y v = some y := by
  cases x <;> simp only [overrideVal, Option.map_eq_some_iff, Option.some.injEq] at h
  case float => obtain ⟨z, hz, rfl⟩ := h; simp [overrideVal, hz]
  case int => obtain ⟨z, hz, rfl⟩ := h; simp [overrideVal, hz]
  case text => subst h; rfl
  case switch b => subst h; cases hs : switchOf v <;> simp [overrideVal, hs]
  case other => subst h; rfl

theorem overrideAll_idem (m : List (String × String)) (hnd : (m.map (·.1)).Nodup) (t t1 : Table F)
    (h : overrideAll pf t m = some t1) : overrideAll pf t1 m = some t1 := by
  fun_induction overrideAll pf t m with
  | case1 => rfl
  | case2 => cases h
  | case3 t k v m ta h1 ih =>
    have hnd' : k ∉ m.map (·.1) ∧ (m.map (·.1)).Nodup := List.nodup_cons.mp hnd
    rw [overrideAll_cons, overrideKey_fixed pf t1 k v, Option.bind_some]
    · exact ih hnd'.2 h
    · intro x hx
      -- the key occurs once in the map: `t1` holds at `k` what the step of `k` read from the text
      have hl := lookup_overrideAll pf m hnd'.2 ta t1 h k
      rw [(lookup_eq_none_iff m k).mpr hnd'.1] at hl
      rw [hl, lookup_overrideKey pf t ta k v h1 k, if_pos rfl] at hx
      obtain ⟨x0, -, hx0⟩ := Option.bind_eq_some_iff.mp hx
      exact overrideVal_idem pf x0 x v hx0

theorem overrideAll_filter (p : String → Bool) (m : List (String × String)) (t : Table F)
    (hp : ∀ k, p k = false → k ∉ t.map (·.1)) :
    overrideAll pf t m = overrideAll pf t (m.filter fun kv => p kv.1) := by
  induction m generalizing t with
  | nil => rfl
  | cons e m ih =>
    obtain ⟨k, v⟩ := e
    cases hpk : p k with
    | false =>
      rw [List.filter_cons_of_neg (by simp [hpk]), overrideAll_cons,
        overrideKey_unknown pf t k v (hp k hpk)]
      exact ih t hp
    | true =>
      rw [List.filter_cons_of_pos (by simp [hpk]), overrideAll_cons, overrideAll_cons]
      cases h1 : overrideKey pf t k v with
      | none => rfl
      | some t1 =>
        apply ih t1
        rw [overrideKey_keys pf t t1 k v h1]; exact hp

end

theorem lookup_insertArg (m : List (String × String)) (k v k' : String) :
    lookup (insertArg m k v) k' = if k' = k then some v else lookup m k' := by
  fun_induction insertArg m k v with
  | case1 k v => simp only [lookup, eq_comm]
  | case2 x r n v =>
    by_cases h : k' = n
    · simp [lookup_cons, h]
    · simp [lookup_cons, h, Ne.symm h]
  | case3 n x r k v hn ih =>
    rw [lookup_cons, lookup_cons, ih]
    by_cases h : k' = k
    · subst h; simp [hn]
    · simp [h]

theorem insertArg_not_mem (m : List (String × String)) (k v : String) (hk : k ∉ m.map (·.1)) :
    insertArg m k v = m ++ [(k, v)] := by
  fun_induction insertArg m k v with
  | case1 => rfl
  | case2 => simp at hk
  | case3 n x r k v hn ih => rw [ih fun h => hk (List.mem_cons_of_mem _ h)]; rfl

theorem keys_insertArg_nodup (m : List (String × String)) (k v : String)
    (h : (m.map (·.1)).Nodup) : ((insertArg m k v).map (·.1)).Nodup := by
  fun_induction insertArg m k v with
  | case1 => simp
  | case2 => exact h
  | case3 n x r k v hn ih =>
    rw [List.map_cons, List.nodup_cons] at h ⊢
    refine ⟨?_, ih h.2⟩
    -- `n` is no key of the tail, and `insertArg` adds the key `k ≠ n` only
    rw [← lookup_eq_none_iff, lookup_insertArg, if_neg hn, lookup_eq_none_iff]
    exact h.1

theorem argMapKV_snoc (kvs : List (String × String)) (k v : String) :
    argMapKV (kvs ++ [(k, v)]) = insertArg (argMapKV kvs) k v := by
  simp [argMapKV, List.foldl_append]

/-- induction along `argMapKV_snoc` -/
theorem snoc_induction {α : Type} {P : List α → Prop} (nil : P []) (snoc : ∀ l a, P l → P (l ++ [a])) (l : List α) :
    P l := by
  rw [← List.reverse_reverse l]
  induction l.reverse with
  | nil => exact nil
  | cons a r ih => rw [List.reverse_cons]; exact snoc _ a ih

theorem argMapKV_nodup (kvs : List (String × String)) : ((argMapKV kvs).map (·.1)).Nodup := by
  induction kvs using snoc_induction with
  | nil => simp [argMapKV]
  | snoc l e ih => rw [argMapKV_snoc]; exact keys_insertArg_nodup _ _ _ ih

theorem argMapKV_of_nodup (kvs : List (String × String)) (h : (kvs.map (·.1)).Nodup) :
    argMapKV kvs = kvs := by
  induction kvs using snoc_induction with
  | nil => rfl
  | snoc l e ih =>
    rw [List.map_append, List.nodup_append] at h
    rw [argMapKV_snoc, ih h.1, insertArg_not_mem _ _ _ fun hm => h.2.2 e.1 hm e.1 (by simp) rfl]

theorem insertArg_filter (p : String → Bool) (m : List (String × String)) (k v : String) :
    (insertArg m k v).filter (fun kv => p kv.1) =
      if p k then insertArg (m.filter fun kv => p kv.1) k v else m.filter fun kv => p kv.1 := by
  fun_induction insertArg m k v with
  | case1 k v => cases hp : p k <;> simp [insertArg, hp]
  | case2 x r n v => cases hp : p n <;> simp [insertArg, hp]
  | case3 n x r k v hn ih =>
    -- an entry with another key stays in front on both sides or is dropped from both
    rw [List.filter_cons, List.filter_cons, ih]
    cases p n <;> cases p k <;> simp [insertArg, hn]

theorem argMapKV_filter (p : String → Bool) (kvs : List (String × String)) :
    argMapKV (kvs.filter fun kv => p kv.1) = (argMapKV kvs).filter fun kv => p kv.1 := by
  induction kvs using snoc_induction with
  | nil => rfl
  | snoc l e ih =>
    obtain ⟨k, v⟩ := e
    rw [argMapKV_snoc, insertArg_filter, ← ih, List.filter_append]
    cases hp : p k <;> simp [hp, argMapKV_snoc]

section
variable {F : Type}

/-- The value of a key below the batch line: the file entry decoded into the kind of the field, else the default. -/
def lowerLayer (v0 : Val F) (file : List (String × FileVal F)) (k : String) : Option (Val F) :=
  match lookup file k with
  | none => some v0
  | some fv => decodeFile (codecOf k) v0 fv

theorem applyFile_keys (t t' : Table F) (file : List (String × FileVal F))
    (h : applyFile t file = some t') : t'.map (·.1) = t.map (·.1) := by
  fun_induction applyFile t file generalizing t' with
  | case1 => cases h; rfl
  | case2 n x r file y r' hr hy ih => cases h; simp [ih r' hr]
  | case3 => cases h

theorem lookup_applyFile (t t' : Table F) (file : List (String × FileVal F))
    (h : applyFile t file = some t') (k : String) (x : Val F) (hk : lookup t k = some x) :
    ∃ y, lowerLayer x file k = some y ∧ lookup t' k = some y := by
  fun_induction applyFile t file generalizing t' with
  | case1 => cases hk
  | case2 n x0 r file y r' hr hy ih =>
    cases h
    rw [lookup_cons] at hk ⊢
    split at hk
    · cases hk; rename_i hn; subst hn
      exact ⟨y, hy, if_pos rfl⟩
    · rename_i hn; rw [if_neg hn]; exact ih r' hr hk
  | case3 => cases h

theorem decodeFile_kind (codec : String) (old y : Val F) (fv : FileVal F) (h : decodeFile codec old fv = some y) :
    y.ctorIdx = old.ctorIdx := by
  cases old with simp only [decodeFile] at h
  | other => cases h; rfl
  | int _ => split at h <;> (obtain ⟨_, _, rfl⟩ := Option.map_eq_some_iff.mp h; rfl)  -- either codec
  | float _ | text _ | switch _ => obtain ⟨_, _, rfl⟩ := Option.map_eq_some_iff.mp h; rfl

theorem lowerLayer_kind (v0 lower : Val F) (file : List (String × FileVal F)) (k : String)
    (h : lowerLayer v0 file k = some lower) : lower.ctorIdx = v0.ctorIdx := by
  unfold lowerLayer at h
  split at h
  · cases h; rfl
  · exact decodeFile_kind _ _ _ _ h

theorem lookup_updText (k : String) (f : String → String) (t : Table F) (k' : String) (h : k' ≠ k) :
    lookup (updText k f t) k' = lookup t k' := by
  fun_induction updText k f t with
  | case1 => rfl
  | case2 x r => simp [lookup_cons, Ne.symm h]
  | case3 n x r hn ih => rw [lookup_cons, lookup_cons, ih]

theorem lookup_updText_self (k : String) (f : String → String) (t : Table F) :
    lookup (updText k f t) k = (lookup t k).map fun x => match x with
      | .text s => .text (f s)
      | y => y := by
  fun_induction updText k f t with
  | case1 => rfl
  | case2 x r => simp only [lookup_cons, if_true, Option.map_some]; cases x <;> rfl
  | case3 n x r hn ih => rw [lookup_cons, lookup_cons, if_neg hn, if_neg hn, ih]

end
end Hermes.Config
