/-
Lemmas about the crop-parameter readers and the converter (HermesModel/CropParam.lean):
the YAML reader applied to the converter's output stores exactly what the classic reader stores.
The statements hold for every arithmetic `α` (they only compare which expression is stored where).
-/
import HermesModel.CropParam
set_option linter.unusedSectionVars false
namespace Hermes.CropParam

section
variable {α : Type} [Add α] [Div α] [LT α] [LE α] [DecidableLT α] [DecidableLE α]
  [OfNat α 0] [OfNat α 100] [OfNat α 200] [TruncInt α]

theorem overlay_take (n : Nat) (l old : List α) : overlay n (l.take n) old = overlay n l old := by
  simp [overlay, List.take_take]

/-- `reset` as one record update: per cell, kept for a permanent crop or cleared -/
theorem reset_eq (d : Bool) (s : State α) : reset d s =
    { s with stageDays := if d then s.stageDays else [0, 0, 0, 0, 0],
             phyllo := if d then s.phyllo else 0, verntage := if d then s.verntage else 0,
             sum := if d then s.sum.take 2 ++ List.replicate 8 0 else List.replicate 10 0,
             dev := if d then s.dev else List.replicate 10 0,
             pro := if d then s.pro.take 2 ++ List.replicate 8 (List.replicate 5 0)
                    else List.replicate 10 (List.replicate 5 0),
             dead := if d then s.dead.take 2 ++ List.replicate 8 (List.replicate 5 0)
                     else List.replicate 10 (List.replicate 5 0),
             trootsum := 0 } := by
  cases d <;> rfl

theorem bbch_convert_eq_classic (t : Option α)
    (h : ∀ v, t = some v → (0 : α) ≤ v ∧ v < (100 : α)) : bbchConvert t = bbchClassic t := by
  cases t with
  | none => rfl
  | some v =>
    have := h v rfl
    simp [bbchConvert, bbchClassic, this]

theorem stage_yml_convert (n i : Nat) (st : StageTok α) (s : State α)
    (h : ∀ v, st.bbch = some v → (0 : α) ≤ v ∧ v < (100 : α)) :
    stageYml n i (convertStage n st) s = stageClassic n i st s := by
  simp only [stageYml, stageClassic, convertStage, overlay_take, bbch_convert_eq_classic st.bbch h]

theorem stages_yml_convert (n : Nat) (l : List (StageTok α))
    (h : ∀ st ∈ l, ∀ v, st.bbch = some v → (0 : α) ≤ v ∧ v < (100 : α)) :
    ∀ (i : Nat) (s : State α), stagesYml n (l.map (convertStage n)) i s = stagesClassic n l i s := by
  induction l with
  | nil => intro i s; rfl
  | cons st rest ih =>
    intro i s
    simp only [List.map_cons, stagesYml, stagesClassic]
    rw [stage_yml_convert n i st s (h st (List.mem_cons_self ..))]
    exact ih (fun st' hm => h st' (List.mem_cons_of_mem _ hm)) (i + 1) _

theorem yml_convert_eq_classic_core (t : Classic α) (rep : Bool) (s : State α)
    (hb : ∀ st ∈ t.stages, ∀ v, st.bbch = some v → (0 : α) ≤ v ∧ v < (100 : α)) :
    applyYmlCore (convert t) rep s = applyClassicCore t rep s := by
  have hstages : ((List.map (convertStage t.nrkom) (List.take t.nrentw t.stages)).take t.nrentw) =
      List.map (convertStage t.nrkom) (List.take t.nrentw t.stages) := by
    rw [← List.map_take, List.take_take, Nat.min_self]
  have hb' : ∀ st ∈ t.stages.take t.nrentw, ∀ v, st.bbch = some v → (0 : α) ≤ v ∧ v < (100 : α) :=
    fun st hm => hb st (List.mem_of_mem_take hm)
  -- the same stage loop from two start states: the record updates around `reset` (one update itself) in the two readers' order
  simp only [applyYmlCore, applyClassicCore, convert, hstages, overlay_take,
    stages_yml_convert t.nrkom _ hb', reset_eq]

end
end Hermes.CropParam
