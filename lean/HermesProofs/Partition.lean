/-
The partition model: the slices are a chain of contiguous non-empty ranges (`Chain`), and the indices a chain
executes are an interval.  Core Lean only.
-/
import HermesModel.Partition
namespace Hermes.Partition

/-- `Chain s l e`: the ranges of `l` are non-empty, start at `s + 1`, each starts right after the
previous one ends, and the last ends at `e` (contiguous, disjoint, covering `s+1 … e`). -/
inductive Chain : Nat → List (Nat × Nat) → Nat → Prop
  | nil (s : Nat) : Chain s [] s
  | cons (s hi : Nat) (rest : List (Nat × Nat)) (e : Nat) :
      s + 1 ≤ hi → Chain hi rest e → Chain s ((s + 1, hi) :: rest) e

theorem Chain.le {s e : Nat} {l : List (Nat × Nat)} (h : Chain s l e) : s ≤ e := by
  induction h with
  | nil s => exact Nat.le_refl _
  | cons s hi rest e h1 _ ih => omega

theorem slices_chain (sps rest nodes : Nat) (hs : 1 ≤ sps) (hr : rest < nodes) (fuel i last : Nat)
    (h : fuel + i = nodes + 1) (e : Nat) (he : e = last + fuel * sps + (rest + 1 - i)) :
    Chain last (slices sps rest nodes fuel i last) e := by
  fun_induction slices sps rest nodes fuel i last generalizing e with
  | case1 i last =>
    rw [he, Nat.zero_mul, show rest + 1 - i = 0 by omega]
    exact Chain.nil _
  | case2 => omega
  | case3 f i last hi hle ih =>
    -- the slice ends at `last + sps + 1`, and the rest of the chain starts there
    exact Chain.cons last _ _ _ (by omega) (ih (by omega) e (by rw [he, Nat.succ_mul]; omega))
  | case4 f i last hi hle ih =>
    exact Chain.cons last _ _ _ (by omega) (ih (by omega) e (by rw [he, Nat.succ_mul]; omega))

theorem slices_length (sps rest nodes fuel i last : Nat) (h : fuel + i = nodes + 1) :
    (slices sps rest nodes fuel i last).length = fuel := by
  fun_induction slices sps rest nodes fuel i last with
  | case1 => rfl
  | case2 => omega
  | case3 f i last hi hle ih => rw [List.length_cons, ih (by omega)]
  | case4 f i last hi hle ih => rw [List.length_cons, ih (by omega)]

theorem singles_chain : ∀ n s e, e = s + n → Chain s ((List.range' s n).map fun i => (i + 1, i + 1)) e := by
  intro n
  induction n with
  | zero =>
    intro s e he
    rw [he]
    exact Chain.nil s
  | succ k ih =>
    intro s e he
    rw [List.range'_succ, List.map_cons]
    exact Chain.cons s (s + 1) _ _ (Nat.le_refl _) (ih (s + 1) e (by omega))

theorem filter_range_interval (n s e : Nat) (he : e ≤ n) :
    (List.range n).filter (fun i => decide (s ≤ i) && decide (i < e)) = List.range' s (e - s) := by
  by_cases hse : s ≤ e
  · -- `0 … n-1` is `0 … s-1`, `s … e-1`, `e … n-1`: the filter keeps the middle piece
    have hn : n = s + ((e - s) + (n - e)) := by omega
    rw [List.range_eq_range', hn, ← List.range'_append_1, ← List.range'_append_1, List.filter_append,
      List.filter_append, List.filter_eq_nil_iff.mpr, List.filter_eq_self.mpr, List.filter_eq_nil_iff.mpr]
    · simp
    · intro a ha; have := (List.mem_range'_1.mp ha).1; simp; omega
    · intro a ha; have := List.mem_range'_1.mp ha; simp; omega
    · intro a ha; have := (List.mem_range'_1.mp ha).2; simp; omega
  · rw [show e - s = 0 by omega, List.range'_zero, List.filter_eq_nil_iff]
    intro a _; simp; omega

theorem selected_eq (s hi n : Nat) (h1 : s + 1 ≤ hi) (he : hi ≤ n) :
    selected (s + 1) hi n = List.range' s (hi - s) := by
  rw [← filter_range_interval n s hi he]
  unfold selected
  apply List.filter_congr
  intro a _
  have : ¬ hi = 0 := by omega
  simp [this]

theorem chain_selected (n : Nat) {s e : Nat} {l : List (Nat × Nat)} (h : Chain s l e) (he : e ≤ n) :
    l.flatMap (fun r => selected r.1 r.2 n) = List.range' s (e - s) := by
  induction h with
  | nil s => simp
  | cons s hi rest e h1 hc ih =>
    have hle := hc.le
    rw [List.flatMap_cons, ih he]
    simp only
    rw [selected_eq s hi n h1 (by omega)]
    have : List.range' hi (e - hi) = List.range' (s + (hi - s)) (e - hi) := by congr 1; omega
    rw [this, List.range'_append_1]
    congr 1; omega

end Hermes.Partition
