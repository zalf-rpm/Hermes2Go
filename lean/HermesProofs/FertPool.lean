/-
Lemmas over ℚ for `C07_dissolved_le_applied…`: the invariants UMS ≤ DSUMM, NH4UMS ≤ NH4Sum through one layer
and the layer loop of `mineral` (namespace `Mineral`), then through one event of HermesModel/FertPool.lean.
-/
import HermesProofs.Mineral
import HermesProofs.PlantArith
import HermesModel.FertPool
namespace Hermes.Mineral
open Hermes.Nitro

theorem dissolve_step (m x D : ℚ) (m0 : 0 ≤ m) (m1 : m ≤ 1) (h : x ≤ D) :
    x + 0.4 * m * (D - x) ≤ D ∧ x ≤ x + 0.4 * m * (D - x) := by
  obtain ⟨e2, e1⟩ := frac_between (f := 0.4 * m) (mul_nonneg (by norm_num) m0) (mul_le_one₀ (by norm_num) m0 m1)
    (sub_nonneg.mpr h)
  exact ⟨add_le_of_le_sub_left e1, le_add_of_nonneg_right e2⟩

/-- what the frozen branch needs of the top layer: if the `WG < WRED` formula is used, the wilting
point is below WRED -/
def FrozenOrd (wred : ℚ) (L : Layer ℚ) : Prop :=
  ¬ 0 < (L.tdLo + L.tdUp) / 2 → L.wg < wred → L.wmin < wred

instance (wred : ℚ) (L : Layer ℚ) : Decidable (FrozenOrd wred L) := by unfold FrozenOrd; infer_instance

theorem layer_dissolved (top : Bool) (dsumm nh4sum wred : ℚ) (L : Layer ℚ) (a : Acc ℚ)
    (hord : top = true → FrozenOrd wred L) (h1 : a.ums ≤ dsumm) (h2 : a.nh4ums ≤ nh4sum) :
    (layer top dsumm nh4sum wred L a).2.ums ≤ dsumm ∧ a.ums ≤ (layer top dsumm nh4sum wred L a).2.ums ∧
    (layer top dsumm nh4sum wred L a).2.nh4ums ≤ nh4sum ∧ a.nh4ums ≤ (layer top dsumm nh4sum wred L a).2.nh4ums := by
  unfold layer
  by_cases hw : 0 < (L.tdLo + L.tdUp) / 2
  · simp only [hw, if_true]
    obtain ⟨m0, m1⟩ := miredWarm_unit L.wg L.wnor wred L.wmin L.porges
    generalize miredWarm L.wg L.wnor wred L.wmin L.porges = m at m0 m1
    cases top
    · simp; exact ⟨h1, h2⟩
    · simp only [if_true]
      obtain ⟨a1, a2⟩ := dissolve_step m a.ums dsumm m0 m1 h1
      obtain ⟨b1, b2⟩ := dissolve_step m a.nh4ums nh4sum m0 m1 h2
      exact ⟨a1, a2, b1, b2⟩
  · simp only [hw, if_false]
    cases top
    · simp; exact ⟨h1, h2⟩
    · simp only [if_true]
      obtain ⟨m0, m1⟩ := miredCold_unit L.wg L.w wred L.wmin L.porges (hord rfl hw)
      generalize miredCold L.wg L.w wred L.wmin L.porges = m at m0 m1
      obtain ⟨a1, a2⟩ := dissolve_step m a.ums dsumm m0 m1 h1
      obtain ⟨b1, b2⟩ := dissolve_step m a.nh4ums nh4sum m0 m1 h2
      exact ⟨a1, a2, b1, b2⟩

theorem go_dissolved (dsumm nh4sum wred : ℚ) (ls : List (Layer ℚ)) (top : Bool) (a : Acc ℚ)
    (hord : top = true → ∀ L ∈ ls.head?, FrozenOrd wred L) (h1 : a.ums ≤ dsumm) (h2 : a.nh4ums ≤ nh4sum) :
    (go dsumm nh4sum wred top ls a).2.ums ≤ dsumm ∧ a.ums ≤ (go dsumm nh4sum wred top ls a).2.ums ∧
    (go dsumm nh4sum wred top ls a).2.nh4ums ≤ nh4sum ∧ a.nh4ums ≤ (go dsumm nh4sum wred top ls a).2.nh4ums := by
  fun_induction go dsumm nh4sum wred top ls a with
  | case1 => exact ⟨h1, le_refl _, h2, le_refl _⟩
  | case2 top L rest a r s ih =>
    obtain ⟨a1, a2, a3, a4⟩ := layer_dissolved top dsumm nh4sum wred L a (fun ht => hord ht L (by simp)) h1 h2
    obtain ⟨b1, b2, b3, b4⟩ := ih (fun h => by simp at h) a1 a3
    exact ⟨b1, le_trans a2 b2, b3, le_trans a4 b4⟩

end Hermes.Mineral

namespace Hermes.FertPool
open Hermes.Mineral

/-- dissolved ≤ applied, nitrified ≤ ammonium applied -/
def Inv (p : Pool ℚ) : Prop := p.acc.ums ≤ p.dsumm ∧ p.acc.nh4ums ≤ p.nh4sum

/-- admissible events: applications add non-negative amounts; in a `mineral` call the top layer
satisfies `FrozenOrd` (only matters when it is frozen and drier than WRED) -/
def EvOk : Ev ℚ → Prop
  | .fert nd nh => 0 ≤ nd ∧ 0 ≤ nh
  | .mineral wred ls => ∀ L ∈ ls.head?, FrozenOrd wred L
  | .measure => True

theorem apply_inv (p : Pool ℚ) (e : Ev ℚ) (he : EvOk e) (h : Inv p) : Inv (apply p e) := by
  obtain ⟨h1, h2⟩ := h
  cases e with
  | fert nd nh =>
    obtain ⟨a, b⟩ := he
    exact ⟨by show p.acc.ums ≤ p.dsumm + nd; linarith, by show p.acc.nh4ums ≤ p.nh4sum + nh; linarith⟩
  | mineral wred ls =>
    obtain ⟨a1, _, a3, _⟩ := go_dissolved p.dsumm p.nh4sum wred ls true p.acc (fun _ => he) h1 h2
    exact ⟨a1, a3⟩
  | measure =>
    exact ⟨by show (0 : ℚ) ≤ 0; exact le_refl _, h2⟩

end Hermes.FertPool
