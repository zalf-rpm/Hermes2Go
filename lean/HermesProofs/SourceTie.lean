/-
The hand-written models of the pure scalar functions equal the Lean translation of their Go source, which
harness/cmd/extract/translate_facts.go regenerates from /repo on every run (HermesModel/Generated/PureKernels.lean).
Proved over ℚ by unfolding and rewriting the integer-valued decimals (Decimals.lean), which closes the goal as long as the
translation associates like the model; `ring` does the rest when it does not.  So a re-association or a hoisted
sub-expression in the source still checks, while a changed coefficient, term, sign or argument makes these theorems, and
with them the theorems about the source in HermesProps, fail.
-/
import HermesProofs.Decimals
import HermesModel.SoilParams
import HermesModel.EvatraPet
import HermesModel.Generated.PureKernels
import Mathlib.Tactic.Ring

namespace Hermes.SourceTie
open Hermes.SoilParams Hermes.Generated

theorem ptf1_eq_source (c ton sluf : ℚ) : ptf1 c ton sluf = Src.PTF1 c ton sluf := by
  unfold ptf1 Src.PTF1
  ext <;> simp only [lit1] <;> ring

theorem ptf2_eq_source (c ton sluf : ℚ) : ptf2 c ton sluf = Src.PTF2 c ton sluf := by
  unfold ptf2 Src.PTF2
  ext <;> simp only [lit100] <;> ring

theorem ptf3_eq_source (c ton sluf : ℚ) : ptf3 c ton sluf = Src.PTF3 c ton sluf := by
  unfold ptf3 Src.PTF3
  ext <;> simp only [lit100] <;> ring

theorem ptf4_eq_source (c ton ssand : ℚ) : ptf4 c ton ssand = Src.PTF4 c ton ssand := by
  unfold ptf4 Src.PTF4 ptf4FcPoly ptf4WpPoly pow2 pow3 Src.pow2 Src.pow3
  ext <;> simp only [lit100] <;> ring

/-- `Limit` (solar.go) as used by the day-length model -/
theorem limit_eq_source (v up lo : ℚ) : EvatraPet.limit v up lo = Src.Limit v up lo := by
  unfold EvatraPet.limit Src.Limit
  rfl

end Hermes.SourceTie
