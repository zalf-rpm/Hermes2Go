/-
Exact-arithmetic facts about the sub-step selection: ZSR ≥ 1, and for WDT = 1/c with an integer c ≥ 1 the rounded
number of sub-steps is at least 1 and STEPS · WDT = 1.
-/
import HermesModel.Substeps
import HermesProofs.RatInst
import Mathlib.Tactic.Linarith
import Mathlib.Tactic.NormNum

namespace Hermes.Water

/-- the time-step class is 1, 1/2, 1/4 or 1/8 -/
theorem one_le_inv_tsFactor (pri : ℚ) : 1 ≤ 1 / tsFactor pri := by
  unfold tsFactor
  split_ifs <;> norm_num

theorem le_maxv (a b : ℚ) : a ≤ maxv a b := (le_max_left a b).trans_eq (max_def_lt a b)

theorem zsrLayers_ge (dz regen : ℚ) (l : List (ℚ × ℚ)) (fscs zsr : ℚ) : zsr ≤ zsrLayers dz regen fscs zsr l := by
  fun_induction zsrLayers dz regen fscs zsr l with
  | case1 => exact le_refl _
  | case2 fscs zsr w wg rest fscs' zsr' ih =>
    refine le_trans ?_ ih
    simp only [zsr']
    split
    · exact le_maxv _ _
    · exact le_refl _

theorem one_le_zsrOf (i : SubIn ℚ) : 1 ≤ zsrOf i := by
  unfold zsrOf
  exact le_trans (one_le_inv_tsFactor _) (zsrLayers_ge _ _ _ _ _)

theorem roundNat_int (c : ℤ) : Conv.roundNat ((c : ℚ)) = c.toNat := by
  show (⌊(c : ℚ) + 1 / 2⌋).toNat = c.toNat
  congr 1
  rw [Int.floor_eq_iff]
  constructor <;> linarith

theorem steps_of_int (c : ℤ) (hc : 1 ≤ c) :
    1 ≤ Conv.roundNat (1 / (1 / (c : ℚ))) ∧ ((Conv.roundNat (1 / (1 / (c : ℚ))) : ℕ) : ℚ) * (1 / (c : ℚ)) = 1 := by
  have h0 : (0 : ℤ) ≤ c := by omega
  have hq : (c : ℚ) ≠ 0 := by exact_mod_cast (by omega : c ≠ 0)
  have hnat : ((c.toNat : ℕ) : ℚ) = (c : ℚ) := by exact_mod_cast Int.toNat_of_nonneg h0
  rw [one_div_one_div, roundNat_int c, hnat, mul_one_div_cancel hq]
  exact ⟨by omega, rfl⟩

end Hermes.Water
