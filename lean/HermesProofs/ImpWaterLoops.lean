/-
Refinement of the regenerated translation of `hermes.Water` (HermesModel/Generated/ImpWater.lean) to the hand-written model
`Water.step` — the loops without `break`.  Each writes one cell of one or two arrays per iteration; the state it leaves is the
state it started from with those arrays `fill`ed (HermesProofs/ImpLemmas.lean), `F` being the right-hand side of the Go
assignment (for the loop of the new water contents up to the counters the model does not follow, `withCounters`).  Bounds are variables: the
callers put in `g.N`, `g.N + 1`, and for the loops below a front the start index as well.
-/
import HermesProofs.ImpLemmas
import HermesProofs.Water
import HermesModel.Generated.ImpWater
import Mathlib.Tactic.SplitIfs

namespace Hermes.ImpWater
open Hermes.Imp
open Hermes.Generated.Imp.Water

/-- water.go:825-831: the limited uptake of layer `i` -/
def limI (s : St ℚ) (i : Int) : ℚ := Water.limTp s.g_DZ_Num (rd s.g_WG_0 i) (rd s.g_WMIN i) (rd s.g_TP i)

/-- water.go:824-833, first sub-step: uptake limited to the water above the wilting point, WATER[0] -/
theorem loop1_eq (m : MathFns ℚ) (s : St ℚ) (b : Int) (n : Nat) (hn : (b - 0).toNat = n) (lTP : n ≤ s.g_TP.length) :
    loopUp noBrk 0 b (loop1 m) s
      = { s with g_TP := fill s.g_TP 0 (limI s) n,
                 v_WATER_0 := fill s.v_WATER_0 0 (fun i => rd s.g_WG_0 i * s.g_DZ_Num - limI s i * s.p_wdt) n } :=
  loopUp_noBrk_eq (loop1 m) 0 b n hn
    (fun k => { s with g_TP := fill s.g_TP 0 (limI s) k,
                       v_WATER_0 := fill s.v_WATER_0 0 (fun i => rd s.g_WG_0 i * s.g_DZ_Num - limI s i * s.p_wdt) k })
    (fun k hk => by
      have hw : ∀ v, rd (wr (fill s.g_TP 0 (limI s) k) (0 + k) v) (0 + k) = v :=
        fun v => rd_wr_same _ _ _ (by omega) (by rw [length_fill]; omega)
      simp only [loop1, lit0, rd_fill_next, fill]
      by_cases c1 : (rd s.g_WG_0 (0 + k) - rd s.g_WMIN (0 + k)) * s.g_DZ_Num < rd s.g_TP (0 + k)
      · by_cases c2 : rd s.g_WG_0 (0 + k) < rd s.g_WMIN (0 + k)
        · simp only [c1, c2, ↓reduceIte, limI, Water.limTp, hw]
        · simp only [c1, c2, ↓reduceIte, limI, Water.limTp, hw]
      · -- TP[k] is not written: the same list as after `TP[k] = TP[k]`
        have hl : limI s (0 + k) = rd (fill s.g_TP 0 (limI s) k) (0 + k) := by simp only [limI, Water.limTp, c1, ↓reduceIte, rd_fill_next]
        simp only [c1, ↓reduceIte, hl, wr_rd_self])

/-- water.go:835-838, later sub-steps: the profile of the previous sub-step, WATER[0] -/
theorem loop2_eq (m : MathFns ℚ) (s : St ℚ) (b : Int) (n : Nat) (hn : (b - 0).toNat = n) (lG : n ≤ s.g_WG_0.length) :
    loopUp noBrk 0 b (loop2 m) s
      = { s with g_WG_0 := fill s.g_WG_0 0 (fun i => rd s.g_WG_1 i) n,
                 v_WATER_0 := fill s.v_WATER_0 0 (fun i => rd s.g_WG_1 i * s.g_DZ_Num - rd s.g_TP i * s.p_wdt) n } :=
  loopUp_noBrk_eq (loop2 m) 0 b n hn
    (fun k => { s with g_WG_0 := fill s.g_WG_0 0 (fun i => rd s.g_WG_1 i) k,
                       v_WATER_0 := fill s.v_WATER_0 0 (fun i => rd s.g_WG_1 i * s.g_DZ_Num - rd s.g_TP i * s.p_wdt) k })
    (fun k hk => by
      simp only [loop2, fill,
        rd_wr_same (fill s.g_WG_0 0 (fun i => rd s.g_WG_1 i) k) (0 + k) _ (by omega) (by rw [length_fill]; omega)])

/-- water.go:852-856: below the wetting front the profile is copied (0-based `k2 - 1`), the fluxes are zero -/
theorem loop4_eq (m : MathFns ℚ) (k1 : Int) (t : St ℚ) (a b : Int) (n : Nat) (hn : (b - a).toNat = n) :
    loopUp noBrk a b (loop4 m k1) t
      = { t with v_WATER_1 := fill t.v_WATER_1 (a - 1) (fun i => rd t.v_WATER_0 i) n, g_Q1 := fill t.g_Q1 a (fun _ => 0) n } :=
  loopUp_noBrk_eq (loop4 m k1) a b n hn
    (fun k => { t with v_WATER_1 := fill t.v_WATER_1 (a - 1) (fun i => rd t.v_WATER_0 i) k, g_Q1 := fill t.g_Q1 a (fun _ => 0) k })
    (fun k _ => by
      have e : a + k - 1 = a - 1 + k := by omega
      simp only [loop4, fill, lit0, e])

/-- water.go:889-892: below the drying front the profile is copied, the fluxes are zero -/
theorem loop6_eq (m : MathFns ℚ) (k1 : Int) (t : St ℚ) (a b : Int) (n : Nat) (hn : (b - a).toNat = n) :
    loopUp noBrk a b (loop6 m k1) t
      = { t with v_WATER_1 := fill t.v_WATER_1 a (fun i => rd t.v_WATER_0 i) n, g_Q1 := fill t.g_Q1 (a + 1) (fun _ => 0) n } :=
  loopUp_noBrk_eq (loop6 m k1) a b n hn
    (fun k => { t with v_WATER_1 := fill t.v_WATER_1 a (fun i => rd t.v_WATER_0 i) k, g_Q1 := fill t.g_Q1 (a + 1) (fun _ => 0) k })
    (fun k _ => by
      have e : a + k + 1 = a + 1 + k := by omega
      simp only [loop6, fill, lit0, e])

/-- water.go:902-905, no surface flux: the same body as the loop below the drying front, from layer 0 -/
theorem loop7_eq (m : MathFns ℚ) (t : St ℚ) (b : Int) (n : Nat) (hn : (b - 0).toNat = n) :
    loopUp noBrk 0 b (loop7 m) t
      = { t with v_WATER_1 := fill t.v_WATER_1 0 (fun i => rd t.v_WATER_0 i) n, g_Q1 := fill t.g_Q1 1 (fun _ => 0) n } :=
  loop6_eq m 0 t 0 b n hn

/-- water.go:945-947, capillary rise: the fluxes below the receiving layer -/
theorem loop10_eq (m : MathFns ℚ) (t : St ℚ) (a b : Int) (n : Nat) (hn : (b - a).toNat = n) :
    loopUp noBrk a b (loop10 m) t
      = { t with g_Q1 := fill t.g_Q1 a (fun i => rd t.g_Q1 i - rd t.g_CAPS t.v_GWDISTindex * t.g_DZ_Num * t.p_wdt) n } :=
  loopUp_noBrk_eq (loop10 m) a b n hn
    (fun k => { t with g_Q1 := fill t.g_Q1 a (fun i => rd t.g_Q1 i - rd t.g_CAPS t.v_GWDISTindex * t.g_DZ_Num * t.p_wdt) k })
    (fun k _ => by
      simp only [loop10, fill, rd_fill_next])

/-- `u` with those counters of `c` that the model's `step` does not follow: transpiration (the loop of the new water contents adds
to them) and percolation after sowing.  About them the refinement only says that nothing else moves. -/
def withCounters (u c : St ℚ) : St ℚ :=
  { u with g_PFTRANS := c.g_PFTRANS, g_TRAY := c.g_TRAY, g_TRAG := c.g_TRAG, g_ETAG := c.g_ETAG,
           g_TP3 := c.g_TP3, g_TP6 := c.g_TP6, g_TP9 := c.g_TP9, g_PERG := c.g_PERG }

/-- water.go:953-970, the new water contents: one iteration writes `WG[1][i-1]`; besides, it only adds to the transpiration counters -/
theorem loop11_step (m : MathFns ℚ) (i : Int) (u : St ℚ) :
    loop11 m i u = withCounters { u with g_WG_1 := wr u.g_WG_1 (i - 1) (rd u.v_WATER_1 (i - 1) / u.g_DZ_Num) } (loop11 m i u) := by
  -- the first `if` (after sowing or not) is decided before the other three are split: they update its result, so it stands in
  -- them once per field of the record
  by_cases c : rd u.g_SAAT u.g_AKF_Index < u.p_zeit
  · simp only [loop11, withCounters, c, ↓reduceIte]
    split_ifs <;> rfl
  · simp only [loop11, withCounters, c, ↓reduceIte]
    split_ifs <;> rfl

theorem loop11_eq (m : MathFns ℚ) (t : St ℚ) (b : Int) (n : Nat) (hn : (b - 1).toNat = n) :
    ∃ c, loopUp noBrk 1 b (loop11 m) t
      = withCounters { t with g_WG_1 := fill t.g_WG_1 0 (fun i => rd t.v_WATER_1 i / t.g_DZ_Num) n } c := by
  subst hn
  refine loopUp_noBrk_ind (loop11 m)
    (fun k u => ∃ c, u = withCounters { t with g_WG_1 := fill t.g_WG_1 0 (fun i => rd t.v_WATER_1 i / t.g_DZ_Num) k } c)
    1 b t ⟨t, rfl⟩ ?_
  rintro k _ _ ⟨c, rfl⟩
  exact ⟨_, (loop11_step m (1 + k) _).trans (by rw [show (1 : Int) + k - 1 = 0 + k from by omega]; rfl)⟩

end Hermes.ImpWater
