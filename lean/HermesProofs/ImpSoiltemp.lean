/-
Refinement: the Lean translation of the current Go source of `Soiltemp` (HermesModel/Generated/ImpSoiltemp.lean, regenerated by
harness/cmd/extract on every run) computes exactly what the hand-written model `SoilTemp.day` computes — for every number of
layers N ≥ 1, every state and every behaviour of the `math` functions; a change of the source that is not behaviour-preserving
breaks this file.  Every loop writes one cell per iteration, so it leaves its start state with the written arrays `fill`ed; the
model's list recursions are the library's `zipWith`/`set`; the views (`vw`) of the filled arrays are the model's lists, and the
24 sub-steps are taken in the order of the model's recursion.
-/
import HermesProofs.ImpLemmas
import HermesProofs.SoilTemp
import HermesModel.Generated.ImpSoiltemp
import Mathlib.Tactic.NormNum

namespace Hermes.ImpSoiltemp
open Hermes.Imp Hermes.SoilTemp
open Hermes.Generated.Imp.Soiltemp

theorem rd_nat (l : List ℚ) (j : Nat) : rd l (j : Int) = l.getD j 0 := by
  unfold rd
  have : ¬ ((j : Int) < 0) := by omega
  simp [this]
  rfl

/-- what the translation needs from the state: `N ≥ 1` layers and arrays long enough (Go: `[21]float64`, N ≤ 20) -/
structure Pre (s : St ℚ) (N : Nat) : Prop where
  hN : s.g_N = (N : Int)
  pos : 1 ≤ N
  lT0 : N + 1 ≤ s.g_TSOIL_0.length
  lT1 : N + 1 ≤ s.g_TSOIL_1.length
  lTD : N + 1 ≤ s.g_TD.length
  lCond : N ≤ s.g_HEATCOND.length
  lCap : N ≤ s.g_HEATCAP.length
  lSum : N ≤ s.g_TDSUM.length

/-- the model's layer `j` as the translation reads it -/
def layerOf (m : MathFns ℚ) (s : St ℚ) (j : Nat) : Layer ℚ :=
  { bd := rd s.g_BD (j : Int), wg := rd s.g_WG_0 (j : Int), hum := rd s.g_HUMUS (j : Int),
    e := m.exp ((-50) * m.pow (rd s.g_WG_0 (j : Int) / rd s.g_BD (j : Int)) 1.5) }

/-- conductivity and capacity of layer `i` as the source computes them (soiltemp.go:47-48) -/
def condI (m : MathFns ℚ) (s : St ℚ) (i : Int) : ℚ :=
  heatCond (rd s.g_BD i) (m.exp ((-50) * m.pow (rd s.g_WG_0 i / rd s.g_BD i) 1.5)) s.g_DT_Num

def capI (s : St ℚ) (i : Int) : ℚ := heatCap (rd s.g_WG_0 i) (rd s.g_BD i) (rd s.g_HUMUS i)

/-- soiltemp.go:46-50: conductivities, capacities, zeroed sums -/
theorem loop1_eq (m : MathFns ℚ) (s : St ℚ) (b : Int) (n : Nat) (hn : (b - 0).toNat = n) :
    loopUp noBrk 0 b (loop1 m) s
      = { s with g_HEATCOND := fill s.g_HEATCOND 0 (condI m s) n, g_HEATCAP := fill s.g_HEATCAP 0 (capI s) n,
                 g_TDSUM := fill s.g_TDSUM 0 (fun _ => 0) n } :=
  loopUp_noBrk_eq (loop1 m) 0 b n hn
    (fun k => { s with g_HEATCOND := fill s.g_HEATCOND 0 (condI m s) k, g_HEATCAP := fill s.g_HEATCAP 0 (capI s) k,
                       g_TDSUM := fill s.g_TDSUM 0 (fun _ => 0) k })
    (fun k _ => by
      simp only [loop1, fill, condI, capI, heatCond, heatCap]
      norm_num)

/-- the new value of node `i` from the old profile of state `t` (soiltemp.go:53-54) -/
def nodeI (t : St ℚ) (i : Int) : ℚ :=
  node (rd t.g_HEATCOND (i - 1) / rd t.g_HEATCAP (i - 1)) t.g_DT_Num (t.g_DZ_Num * t.g_DZ_Num)
    (rd t.g_TSOIL_0 (i - 1)) (rd t.g_TSOIL_0 i) (rd t.g_TSOIL_0 (i + 1))

/-- soiltemp.go:52-56: the interior nodes of one sub-step into TSOIL[1], added to the sums -/
theorem loop3_eq (m : MathFns ℚ) (std : Int) (t : St ℚ) (b : Int) (n : Nat) (hn : (b - 1).toNat = n)
    (lT1 : n + 1 ≤ t.g_TSOIL_1.length) :
    loopUp noBrk 1 b (loop3 m std) t
      = { t with g_TSOIL_1 := fill t.g_TSOIL_1 1 (nodeI t) n,
                 g_TDSUM := fill t.g_TDSUM 0 (fun i => rd t.g_TDSUM i + nodeI t (i + 1)) n } :=
  loopUp_noBrk_eq (loop3 m std) 1 b n hn
    (fun k => { t with g_TSOIL_1 := fill t.g_TSOIL_1 1 (nodeI t) k,
                       g_TDSUM := fill t.g_TDSUM 0 (fun i => rd t.g_TDSUM i + nodeI t (i + 1)) k })
    (fun k hk => by
      have e : (1 : Int) + k - 1 = 0 + k := by omega
      have e' : (0 : Int) + k + 1 = 1 + k := by omega
      -- `TDSUM[i-1] += TSOIL[1][i]` reads the cell just written and a cell of TDSUM not reached yet
      have hw : ∀ v, rd (wr (fill t.g_TSOIL_1 1 (nodeI t) k) (1 + k) v) (1 + k) = v :=
        fun v => rd_wr_same _ _ _ (by omega) (by rw [length_fill]; omega)
      simp only [loop3, e, hw, rd_fill_next, fill, e', nodeI, node, pow2, lit2, lit24])

/-- soiltemp.go:58-60: TSOIL[0] := TSOIL[1] -/
theorem loop4_eq (m : MathFns ℚ) (std : Int) (t : St ℚ) (b : Int) (n : Nat) (hn : (b - 0).toNat = n) :
    loopUp noBrk 0 b (loop4 m std) t = { t with g_TSOIL_0 := fill t.g_TSOIL_0 0 (fun i => rd t.g_TSOIL_1 i) n } :=
  loopUp_noBrk_eq (loop4 m std) 0 b n hn
    (fun k => { t with g_TSOIL_0 := fill t.g_TSOIL_0 0 (fun i => rd t.g_TSOIL_1 i) k }) (fun _ _ => rfl)

/-- soiltemp.go:62-64: the daily means of the interior nodes -/
theorem loop5_eq (m : MathFns ℚ) (t : St ℚ) (b : Int) (n : Nat) (hn : (b - 1).toNat = n) :
    loopUp noBrk 1 b (loop5 m) t = { t with g_TD := fill t.g_TD 1 (fun i => rd t.g_TDSUM (i - 1) / 24) n } :=
  loopUp_noBrk_eq (loop5 m) 1 b n hn
    (fun k => { t with g_TD := fill t.g_TD 1 (fun i => rd t.g_TDSUM (i - 1) / 24) k })
    (fun k _ => by simp only [loop5, fill, lit24])

/-- soiltemp.go:66-68: the daily means fed back into TSOIL[0] -/
theorem loop6_eq (m : MathFns ℚ) (t : St ℚ) (b : Int) (n : Nat) (hn : (b - 1).toNat = n) :
    loopUp noBrk 1 b (loop6 m) t = { t with g_TSOIL_0 := fill t.g_TSOIL_0 1 (fun i => rd t.g_TD i) n } :=
  loopUp_noBrk_eq (loop6 m) 1 b n hn
    (fun k => { t with g_TSOIL_0 := fill t.g_TSOIL_0 1 (fun i => rd t.g_TD i) k }) (fun _ _ => rfl)

/-- the alphas of the layers as the translation computes them (soiltemp.go:53) -/
def alphasOf (t : St ℚ) (N : Nat) : List ℚ :=
  (List.range N).map (fun (j : Nat) => rd t.g_HEATCOND (j : Int) / rd t.g_HEATCAP (j : Int))

/-- the model's interior update on the profile of state `t` -/
def innerOf (t : St ℚ) (N : Nat) : List ℚ :=
  interiorOf t.g_DT_Num (t.g_DZ_Num * t.g_DZ_Num) (alphasOf t N) (vw t.g_TSOIL_0 (N + 1))

theorem innerOf_eq (t : St ℚ) (N : Nat) :
    innerOf t N = (List.range (N - 1)).map fun (d : Nat) => nodeI t ((1 + d : Nat) : Int) := by
  refine List.ext_getElem ?_ (fun i h _ => ?_)
  · simp only [innerOf, interiorOf_eq, alphasOf, List.length_zipWith, List.length_zip, List.length_drop, List.length_map,
      List.length_range, vw_length]
    omega
  · have e2 : ((i + 1 : Nat) : Int) + 1 = ((2 + i : Nat) : Int) := by omega
    simp only [innerOf, interiorOf_eq, alphasOf, List.getElem_zipWith, List.getElem_zip, List.getElem_drop, List.getElem_map,
      List.getElem_range, vw_getElem, nodeI, Nat.add_comm 1 i, natCast_succ_sub_one, e2]

/-- soiltemp.go:52-60: one sub-step -/
theorem loop2_body (m : MathFns ℚ) (std : Int) (t : St ℚ) (N : Nat) (hN : t.g_N = (N : Int)) (lT1 : N + 1 ≤ t.g_TSOIL_1.length) :
    loop2 m std t = { t with
      g_TSOIL_1 := fill t.g_TSOIL_1 1 (nodeI t) (N - 1),
      g_TDSUM := fill t.g_TDSUM 0 (fun i => rd t.g_TDSUM i + nodeI t (i + 1)) (N - 1),
      g_TD := wr t.g_TD 0 (rd (fill t.g_TSOIL_1 1 (nodeI t) (N - 1)) 0),
      g_TSOIL_0 := fill t.g_TSOIL_0 0 (fun i => rd (fill t.g_TSOIL_1 1 (nodeI t) (N - 1)) i) (N + 1) } := by
  simp only [loop2]
  rw [loop3_eq m std t _ (N - 1), loop4_eq m std _ _ (N + 1)]
  · show (t.g_N + 1 - 0).toNat = N + 1
    omega
  · omega
  · omega

theorem substep_ends (t : St ℚ) (N : Nat) (hpos : 1 ≤ N) :
    rd (fill t.g_TSOIL_1 1 (nodeI t) (N - 1)) 0 = rd t.g_TSOIL_1 0 ∧
      rd (fill t.g_TSOIL_1 1 (nodeI t) (N - 1)) (N : Int) = rd t.g_TSOIL_1 (N : Int) :=
  ⟨rd_fill_of_not_mem _ _ _ _ _ (Or.inl (by omega)), rd_fill_of_not_mem _ _ _ _ _ (Or.inr (by omega))⟩

/-- one sub-step of the translation is one sub-step of the model (soiltemp.go:52-60), for the profile: surface value, the
model's interior update, base temperature -/
theorem substep_profile (t : St ℚ) (N : Nat) (hpos : 1 ≤ N) (lT0 : N + 1 ≤ t.g_TSOIL_0.length)
    (lT1 : N + 1 ≤ t.g_TSOIL_1.length) :
    vw (fill t.g_TSOIL_0 0 (fun i => rd (fill t.g_TSOIL_1 1 (nodeI t) (N - 1)) i) (N + 1)) (N + 1)
      = rd t.g_TSOIL_1 0 :: (innerOf t N ++ [rd t.g_TSOIL_1 (N : Int)]) := by
  obtain ⟨r0, rN⟩ := substep_ends t N hpos
  rw [vw_fill_zero _ _ _ _ lT0 (le_refl _), innerOf_eq]
  exact vw_eq_ends _ _ _ _ _ hpos r0 ((Patch.fill _ 1 _ (N - 1) (by omega)).seg_eq (by simp)) rN

/-- one sub-step adds the model's interior update to the sums -/
theorem substep_sums (t : St ℚ) (N : Nat) (lS : N ≤ t.g_TDSUM.length) :
    vw (fill t.g_TDSUM 0 (fun i => rd t.g_TDSUM i + nodeI t (i + 1)) (N - 1)) (N - 1)
      = addTo (vw t.g_TDSUM (N - 1)) (innerOf t N) := by
  rw [vw_fill_zero _ _ _ _ (by omega) (le_refl _), addTo_eq, innerOf_eq, vw, List.zipWith_map, List.zipWith_self]
  simp only [Nat.cast_add, Nat.cast_one, Int.add_comm]

/-- what every sub-step leaves: the surface value in `TD[0]` (soiltemp.go:57), the boundary values at the ends of `TSOIL[0]` -/
structure Stepped (u : St ℚ) (N : Nat) : Prop where
  td0 : rd u.g_TD 0 = rd u.g_TSOIL_1 0
  t00 : rd u.g_TSOIL_0 0 = rd u.g_TSOIL_1 0
  t0N : rd u.g_TSOIL_0 (N : Int) = rd u.g_TSOIL_1 (N : Int)

/-- `u` is `t` after `k` sub-steps: they write `TSOIL[0]`, `TSOIL[1]`, `TDSUM`, `TD` only and keep the surface value `TSOIL[1][0]`
and the base temperature `TSOIL[1][N]`; profile and sums are the model's `steps` from those of `t` -/
structure After (t : St ℚ) (N k : Nat) (u : St ℚ) : Prop where
  pre : Pre u N
  frame : u = { t with g_TSOIL_0 := u.g_TSOIL_0, g_TSOIL_1 := u.g_TSOIL_1, g_TDSUM := u.g_TDSUM, g_TD := u.g_TD }
  surf : rd u.g_TSOIL_1 0 = rd t.g_TSOIL_1 0
  base : rd u.g_TSOIL_1 (N : Int) = rd t.g_TSOIL_1 (N : Int)
  stepped : Stepped u N
  sim : (vw u.g_TSOIL_0 (N + 1), vw u.g_TDSUM (N - 1)) =
    steps t.g_DT_Num (t.g_DZ_Num * t.g_DZ_Num) (rd t.g_TSOIL_1 0) (rd t.g_TSOIL_1 (N : Int)) (alphasOf t N) k
      (vw t.g_TSOIL_0 (N + 1)) (vw t.g_TDSUM (N - 1))

/-- soiltemp.go:51-61.  The recursion follows the model's: the first sub-step, then the remaining ones from the state it leaves. -/
theorem substeps (m : MathFns ℚ) (N : Nat) : ∀ (k : Nat) (i : Int) (t : St ℚ), Pre t N → (k = 0 → Stepped t N) →
    After t N k (loopUpN noBrk (loop2 m) k i t)
  | 0, _, t, h, hg => ⟨h, rfl, rfl, rfl, hg rfl, rfl⟩
  | k + 1, i, t, h, _ => by
    obtain ⟨r0, rN⟩ := substep_ends t N h.pos
    have e := loop2_body m i t N h.hN h.lT1
    have ih := substeps m N k (i + 1) (loop2 m i t)
      (by rw [e]; exact { h with lT0 := by simpa using h.lT0, lT1 := by simpa using h.lT1, lTD := by simpa using h.lTD,
                                 lSum := by simpa using h.lSum })
      (fun _ => by
        rw [e]
        exact ⟨rd_wr_same _ _ _ (le_refl _) (Nat.lt_of_lt_of_le N.succ_pos h.lTD),
          rd_fill_zero _ _ _ 0 h.lT0 N.succ_pos, rd_fill_zero _ _ _ N h.lT0 N.lt_succ_self⟩)
    rw [e] at ih
    rw [loopUpN_noBrk_succ, e]
    refine ⟨ih.pre, ih.frame, ih.surf.trans r0, ih.base.trans rN, ih.stepped, ih.sim.trans ?_⟩
    simp only
    rw [r0, rN, substep_profile t N h.pos h.lT0 h.lT1, substep_sums t N h.lSum]
    rfl

/-- the inputs of the model's `day` as the translation reads them from the state -/
def dayInOf (m : MathFns ℚ) (s : St ℚ) (N : Nat) : DayIn ℚ :=
  let R := radiat s.g_LAI (m.exp (-s.g_LAI)) (rd s.g_RAD s.g_TAG_Index) s.g_ETA (rd s.g_TEMP s.g_TAG_Index)
  { lai := s.g_LAI, expNegLai := m.exp (-s.g_LAI), rad := rd s.g_RAD s.g_TAG_Index, eta := s.g_ETA,
    temp := rd s.g_TEMP s.g_TAG_Index, tmin := rd s.g_TMIN s.g_TAG_Index, tmax := rd s.g_TMAX s.g_TAG_Index,
    sq := m.sqrt (0.0003 * R), tbase := s.g_TBASE, dt := s.g_DT_Num, dz := s.g_DZ_Num,
    layers := (List.range N).map (layerOf m s) }

/-- the loops of `run` after the scalar prologue -/
def tail (m : MathFns ℚ) (u : St ℚ) : St ℚ :=
  let u : St ℚ := loopUp noBrk 0 u.g_N (loop1 m) u
  let u : St ℚ := loopUp noBrk 0 24 (loop2 m) u
  let u : St ℚ := loopUp noBrk 1 ((u.g_N - 1) + 1) (loop5 m) u
  let u : St ℚ := { u with g_TD := wr u.g_TD u.g_N (rd u.g_TSOIL_0 u.g_N) }
  loopUp noBrk 1 (u.g_N + 1) (loop6 m) u

/-- the state after the scalar prologue of `run` (soiltemp.go:25-45) in the model's terms -/
def prologue (m : MathFns ℚ) (s : St ℚ) : St ℚ :=
  let R := radiat s.g_LAI (m.exp (-s.g_LAI)) (rd s.g_RAD s.g_TAG_Index) s.g_ETA (rd s.g_TEMP s.g_TAG_Index)
  let scov : ℚ := if s.g_LAI < 3 then (if 1 - m.exp (-s.g_LAI) < 0 then 0 else 1 - m.exp (-s.g_LAI)) else 1
  let T0 := wr s.g_TSOIL_0 s.g_N s.g_TBASE
  { s with v_scov := scov, v_radiat := R, g_ALBEDO := 0.31, g_TSOIL_0 := T0,
           g_TSOIL_1 := wr (wr s.g_TSOIL_1 s.g_N s.g_TBASE) 0
             (surface R (m.sqrt (0.0003 * R)) (rd s.g_TMIN s.g_TAG_Index) (rd s.g_TMAX s.g_TAG_Index) (rd T0 0)) }

theorem run_eq_tail (m : MathFns ℚ) (s : St ℚ) : Generated.Imp.Soiltemp.run m s = tail m (prologue m s) := by
  have h833 : (833.0 : ℚ) = 833 := by norm_num
  have h200 : (200.0 : ℚ) = 200 := by norm_num
  unfold Generated.Imp.Soiltemp.run tail prologue radiat surface
  simp only [lit3, h833, lit0, lit1, lit2, h200, lit10]
  split_ifs <;> rfl

/-- soiltemp.go:62-65 on arrays: `TD[1..N-1]` the means of the sums, `TD[N] = x` -/
theorem means_view (TD S : List ℚ) (N : Nat) (x : ℚ) (hpos : 1 ≤ N) (hl : N + 1 ≤ TD.length) :
    vw (wr (fill TD 1 (fun i => rd S (i - 1) / 24) (N - 1)) (N : Int) x) (N + 1) = tdOf (rd TD 0) x (vw S (N - 1)) := by
  refine vw_eq_ends _ _ _ _ _ hpos ?_ ?_ ?_
  · rw [rd_wr_ne _ _ _ _ (by omega), rd_fill_of_not_mem _ _ _ _ _ (Or.inl Int.one_pos)]
  · refine seg_ext _ _ _ _ (by simp) (fun d hd => ?_)
    rw [rd_wr_ne _ _ _ _ (by omega), rd_fill _ _ _ _ (by omega) (by omega), if_pos (by omega), List.getElem_map, vw_getElem,
      show ((1 + d : Nat) : Int) - 1 = (d : Int) from by omega]
  · rw [rd_wr_same _ _ _ (by omega) (by rw [Int.toNat_natCast, length_fill]; omega)]

/-- soiltemp.go:66-68 on arrays -/
theorem feedback_view (T0 TD : List ℚ) (N : Nat) (hl : N + 1 ≤ T0.length) :
    vw (fill T0 1 (fun i => rd TD i) N) (N + 1) = rd T0 0 :: (vw TD (N + 1)).drop 1 := by
  rw [vw_succ, vw_succ, rd_fill_of_not_mem _ _ _ _ _ (Or.inl Int.one_pos)]
  exact congrArg _ ((Patch.fill T0 1 _ N (by omega)).seg_eq (by simp))

/-- the loops of `run` (soiltemp.go:46-68) in the model's terms: what the arrays hold when they start is given by the hypotheses -/
theorem tail_views (m : MathFns ℚ) (u : St ℚ) (N : Nat) (h : Pre u N) {surf tbase : ℚ} {ts as zs : List ℚ}
    (hs : rd u.g_TSOIL_1 0 = surf) (hb : rd u.g_TSOIL_1 (N : Int) = tbase) (hts : vw u.g_TSOIL_0 (N + 1) = ts)
    (has : as = (List.range N).map fun (j : Nat) => condI m u j / capI u j)
    (hzs : zs = (List.range (N - 1)).map fun _ => 0) :
    vw (tail m u).g_TD (N + 1)
      = tdOf surf tbase (steps u.g_DT_Num (u.g_DZ_Num * u.g_DZ_Num) surf tbase as 24 ts zs).2 ∧
    vw (tail m u).g_TSOIL_0 (N + 1) = surf :: (vw (tail m u).g_TD (N + 1)).drop 1 ∧
    vw (tail m u).g_HEATCOND N = (List.range N).map (fun (j : Nat) => condI m u j) ∧
    vw (tail m u).g_HEATCAP N = (List.range N).map (fun (j : Nat) => capI u j) ∧
    rd (tail m u).g_TSOIL_1 0 = surf := by
  subst hs hb hts has hzs
  have e1 := loop1_eq m u u.g_N N (by rw [h.hN]; omega)
  set t1 : St ℚ := { u with g_HEATCOND := fill u.g_HEATCOND 0 (condI m u) N, g_HEATCAP := fill u.g_HEATCAP 0 (capI u) N,
                            g_TDSUM := fill u.g_TDSUM 0 (fun _ => 0) N }
  have a : After t1 N 24 (loopUp noBrk 0 24 (loop2 m) t1) := substeps m N 24 0 t1
    { h with lCond := by simpa [t1] using h.lCond, lCap := by simpa [t1] using h.lCap, lSum := by simpa [t1] using h.lSum } nofun
  generalize ht2 : loopUp noBrk 0 24 (loop2 m) t1 = t2 at a
  have hN2 := a.pre.hN
  set TDf : List ℚ := wr (fill t2.g_TD 1 (fun i => rd t2.g_TDSUM (i - 1) / 24) (N - 1)) (N : Int) (rd t2.g_TSOIL_0 (N : Int))
  have htail : tail m u = { t2 with g_TD := TDf, g_TSOIL_0 := fill t2.g_TSOIL_0 1 (fun i => rd TDf i) N } := by
    simp only [tail]
    rw [e1, ht2, loop5_eq m t2 _ (N - 1) (by rw [hN2]; omega)]
    simp only [hN2]
    rw [loop6_eq m _ _ N (by omega)]
  have hSc : vw t2.g_TDSUM (N - 1) = _ := congrArg Prod.snd a.sim
  have hal : alphasOf t1 N = (List.range N).map fun (j : Nat) => condI m u j / capI u j :=
    List.map_congr_left fun j hj => congrArg₂ (· / ·) (rd_fill_zero _ _ _ j h.lCond (List.mem_range.mp hj))
      (rd_fill_zero _ _ _ j h.lCap (List.mem_range.mp hj))
  rw [hal, vw_fill_zero u.g_TDSUM _ N (N - 1) h.lSum (Nat.sub_le N 1)] at hSc
  rw [htail]
  refine ⟨?_, ?_, ?_, ?_, a.surf⟩
  · rw [means_view _ _ N _ h.pos a.pre.lTD, a.stepped.td0, a.surf, a.stepped.t0N, a.base, hSc]
  · rw [feedback_view _ _ N a.pre.lT0, a.stepped.t00, a.surf]
  · exact (congrArg (fun x => vw x.g_HEATCOND N) a.frame).trans (vw_fill_zero _ _ N N h.lCond (le_refl _))
  · exact (congrArg (fun x => vw x.g_HEATCAP N) a.frame).trans (vw_fill_zero _ _ N N h.lCap (le_refl _))

theorem soiltemp_refines (m : MathFns ℚ) (s : St ℚ) (N : Nat) (h : Pre s N) :
    vw (Generated.Imp.Soiltemp.run m s).g_TD (N + 1) = (day (dayInOf m s N) (vw s.g_TSOIL_0 (N + 1))).td ∧
    vw (Generated.Imp.Soiltemp.run m s).g_TSOIL_0 (N + 1) = (day (dayInOf m s N) (vw s.g_TSOIL_0 (N + 1))).tsoil ∧
    vw (Generated.Imp.Soiltemp.run m s).g_HEATCOND N = (day (dayInOf m s N) (vw s.g_TSOIL_0 (N + 1))).cond ∧
    vw (Generated.Imp.Soiltemp.run m s).g_HEATCAP N = (day (dayInOf m s N) (vw s.g_TSOIL_0 (N + 1))).cap ∧
    rd (Generated.Imp.Soiltemp.run m s).g_TSOIL_1 0 = (day (dayInOf m s N) (vw s.g_TSOIL_0 (N + 1))).surf := by
  have ⟨hN, hpos, lT0, lT1, lTD, lCond, lCap, lSum⟩ := h
  rw [run_eq_tail]
  -- the arrays the prologue leaves: TSOIL[0][N] := TBASE, TSOIL[1][N] := TBASE, TSOIL[1][0] := the surface value
  have l1 : (0 : Int).toNat < (wr s.g_TSOIL_1 s.g_N s.g_TBASE).length := by rw [length_wr, Int.toNat_zero]; omega
  have hT1_0 : rd (prologue m s).g_TSOIL_1 0 = (day (dayInOf m s N) (vw s.g_TSOIL_0 (N + 1))).surf := by
    have hT0_0 : rd (wr s.g_TSOIL_0 s.g_N s.g_TBASE) 0 = rd s.g_TSOIL_0 0 := rd_wr_ne _ _ _ _ (by omega)
    simp only [day, surfOf, vw_succ, prologue]
    rw [rd_wr_same _ _ _ (le_refl _) l1, hT0_0]
    rfl
  have hT1_N : rd (prologue m s).g_TSOIL_1 (N : Int) = s.g_TBASE := by
    simp only [prologue]
    rw [rd_wr_ne _ _ _ _ (by omega), hN, rd_wr_same _ _ _ (by omega) (by rw [Int.toNat_natCast]; omega)]
  have hts : vw (prologue m s).g_TSOIL_0 (N + 1) = setLast s.g_TBASE (vw s.g_TSOIL_0 (N + 1)) := by
    refine vw_ext _ _ _ (by simp [setLast_eq]) (fun j h2 => ?_)
    show rd (wr s.g_TSOIL_0 s.g_N s.g_TBASE) (j : Int) = _
    rw [hN, rd_wr_nat _ N j _ (by omega)]
    simp only [setLast_eq, List.getElem_set, vw_getElem, vw_length, Nat.add_sub_cancel]
  have hpre : Pre (prologue m s) N :=
    { h with lT0 := by simp only [prologue, length_wr]; exact lT0, lT1 := by simp only [prologue, length_wr]; exact lT1 }
  have hl : ((dayInOf m s N).layers.drop 1).length = N - 1 := by simp [dayInOf]
  have ha : (dayInOf m s N).layers.map (alpha (dayInOf m s N).dt)
      = (List.range N).map fun (j : Nat) => condI m (prologue m s) j / capI (prologue m s) j := List.map_map
  obtain ⟨vTD, vT0, vC, vA, vS⟩ := tail_views m (prologue m s) N hpre hT1_0 hT1_N hts ha
    ((map_zero_eq ((dayInOf m s N).layers.drop 1)).trans (by rw [hl]))
  refine ⟨?_, ?_, ?_, ?_, vS⟩
  · rw [vTD, day_td_eq]
    rfl
  · rw [vT0, vTD]
    rfl
  · rw [vC]
    simp only [day, dayInOf, List.map_map]
    rfl
  · rw [vA]
    simp only [day, dayInOf, List.map_map]
    rfl

end Hermes.ImpSoiltemp
