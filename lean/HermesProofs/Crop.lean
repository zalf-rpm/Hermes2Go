/-
The crop model (HermesModel/Crop.lean) over ℚ: the invariants of the stage machine and of the organ loop, the root N
concentration, the rooting depth.
-/
import HermesProofs.RatInst
import HermesProofs.PlantArith
import HermesProofs.SumFrom
import HermesModel.Crop
import Mathlib.Tactic.Linarith
import Mathlib.Tactic.Ring
import Mathlib.Tactic.Positivity
import Mathlib.Tactic.NormNum.Basic
import Mathlib.Tactic.NormNum.OfScientific
import Mathlib.Tactic.SplitIfs
import Mathlib.Data.List.GetD

namespace Hermes.Crop

theorem setAt_eq_set {β : Type} (v : β) (l : List β) (k : ℕ) : setAt k v l = l.set k v := by
  fun_induction setAt k v l <;> simp [*]

theorem length_setAt {β : Type} (v : β) (l : List β) (k : ℕ) : (setAt k v l).length = l.length := by
  rw [setAt_eq_set, List.length_set]

theorem getD_setAt {β : Type} (v d : β) (l : List β) (k i : ℕ) :
    (setAt k v l).getD i d = if i = k ∧ k < l.length then v else l.getD i d := by
  rw [setAt_eq_set, List.getD_eq_getElem?_getD, List.getElem?_set, List.getD_eq_getElem?_getD]
  split_ifs <;> simp_all

theorem setAt0 {β : Type} (v x : β) (xs : List β) : setAt 0 v (x :: xs) = v :: xs := rfl
theorem setAt1 {β : Type} (v x y : β) (xs : List β) : setAt 1 v (x :: y :: xs) = x :: v :: xs := rfl
theorem setAt2 {β : Type} (v x y z : β) (xs : List β) : setAt 2 v (x :: y :: z :: xs) = x :: y :: v :: xs := rfl

theorem fmax_eq_max (a b : ℚ) : fmax a b = max a b := (max_def_lt a b).symm

theorem fmin_eq_min (a b : ℚ) : fmin a b = min a b := (min_def_lt' a b).symm

theorem fabs_nonneg (x : ℚ) : 0 ≤ fabs x :=
  ite_of_imp (0 ≤ ·) (fun h => (neg_pos.2 h).le) not_lt.mp

theorem fmax_ge_right (a b : ℚ) : b ≤ fmax a b := by
  rw [fmax_eq_max]; exact le_max_right _ _

theorem fmin_le_right (a b : ℚ) : fmin a b ≤ b := by
  rw [fmin_eq_min]; exact min_le_right _ _

theorem clamp01_eq (x : ℚ) : clamp01 x = max (min x 1) 0 := by
  simp only [clamp01, ← max_def_lt, ← min_def_lt']

theorem clamp01_unit (x : ℚ) : 0 ≤ clamp01 x ∧ clamp01 x ≤ 1 := by
  rw [clamp01_eq]; exact ⟨le_max_right _ _, max_le (min_le_right _ _) zero_le_one⟩

/-- every segment is bounded on its own condition; no earlier condition of the cascade is needed (splitting the cascade
into cases is slow to check) -/
theorem vernEff_nonneg (t : ℚ) : 0 ≤ vernEff t := by
  unfold vernEff
  refine ite_of_imp (0 ≤ ·) (fun h => div_nonneg (by linarith [h.2]) (by norm_num)) fun _ => ?_
  refine ite_of_both (0 ≤ ·) _ le_rfl ?_
  iterate 3 refine ite_of_imp (0 ≤ ·) (fun h => le_seg (by norm_num) (by norm_num) h.2.le (by norm_num)) fun _ => ?_
  exact ite_of_both (0 ≤ ·) _ le_rfl zero_le_one

theorem vern_unit (verntage vschwell temp dt : ℚ) :
    0 ≤ (vern verntage vschwell temp dt).2 ∧ (vern verntage vschwell temp dt).2 ≤ 1 := by
  simp only [vern]
  split_ifs with _ h0 h1
  · exact ⟨le_refl _, zero_le_one⟩
  · exact ⟨zero_le_one, le_refl _⟩
  · exact ⟨not_lt.mp h0, not_lt.mp h1⟩
  · exact ⟨zero_le_one, le_refl _⟩

theorem thermalInc_nonneg (temp bas fv fp dp dt : ℚ) (ht : bas ≤ temp) (hfv : 0 ≤ fv) (hfp : 0 ≤ fp) (hdp : 1 ≤ dp)
    (hdt : 0 ≤ dt) : 0 ≤ thermalInc temp bas fv fp dp dt := by
  unfold thermalInc
  have h1 : 0 ≤ temp - bas := by linarith
  have h2 : (0 : ℚ) ≤ dp := by linarith
  positivity

/-- what a day can do to stage index and recorded days of `s`; `r` = (stage afterwards, "advanced") -/
def OneStep (nrentw day : ℕ) (s : Stage ℚ) (r : Stage ℚ × Bool) : Prop :=
  (r.1.intwick = s.intwick ∧ r.1.dev = s.dev ∧ r.2 = false) ∨
  (s.intwick + 1 < nrentw ∧ r.1.intwick = s.intwick + 1 ∧ r.1.dev = setAt (s.intwick + 1) day s.dev ∧ r.2 = true)

theorem advance_cases (nrentw day : ℕ) (tsum : List ℚ) (s : Stage ℚ) :
    OneStep nrentw day s (advance nrentw day tsum s) := by
  simp only [advance, OneStep]
  split_ifs with h
  · exact Or.inr ⟨h.2, rfl, rfl, rfl⟩
  · exact Or.inl ⟨rfl, rfl, rfl⟩

theorem stageStep_cases (nrentw day : ℕ) (tsum : List ℚ) (e : Option ℚ) (d : ℕ → Option ℚ) (s : Stage ℚ) :
    OneStep nrentw day s (stageStep nrentw day tsum e d s) := by
  simp only [stageStep]
  -- the two additions to the temperature sums touch neither field
  generalize hs1 : (if s.intwick = 0 then { s with sum := setAt 0 (addOpt (s.sum.getD 0 0) e) s.sum } else s) = s1
  have e1 : s1.intwick = s.intwick ∧ s1.dev = s.dev := by rw [← hs1]; split <;> exact ⟨rfl, rfl⟩
  split
  · have h := advance_cases nrentw day tsum s1
    rwa [OneStep, e1.1, e1.2] at h
  · exact Or.inl ⟨e1.1, e1.2, rfl⟩

/-- the recorded days of the stages reached so far (1 … INTWICK) lie in [lo, hi] and increase strictly with the stage -/
def Recorded (s : Stage ℚ) (lo hi : ℕ) : Prop :=
  (∀ i, 1 ≤ i → i ≤ s.intwick → lo ≤ s.dev.getD i 0 ∧ s.dev.getD i 0 ≤ hi) ∧
  (∀ i j, 1 ≤ i → i < j → j ≤ s.intwick → s.dev.getD i 0 < s.dev.getD j 0)

theorem Recorded.mono {s : Stage ℚ} {lo hi hi' : ℕ} (h : Recorded s lo hi) (hh : hi ≤ hi') : Recorded s lo hi' :=
  ⟨fun i h1 h2 => ⟨(h.1 i h1 h2).1, le_trans (h.1 i h1 h2).2 hh⟩, h.2⟩

theorem OneStep.recorded {nrentw day lo hi : ℕ} {s : Stage ℚ} {r : Stage ℚ × Bool} (h : OneStep nrentw day s r)
    (hlen : nrentw ≤ s.dev.length) (hrec : Recorded s lo hi) (hday : hi < day) (hlo : lo ≤ day) :
    Recorded r.1 lo day ∧ r.1.dev.length = s.dev.length := by
  rcases h with ⟨hi1, hd1, _⟩ | ⟨hlt, hi1, hd1, _⟩
  · rw [Recorded, hi1, hd1]
    exact ⟨(hrec.mono (Nat.le_of_lt hday)), rfl⟩
  · -- the new stage's slot holds `day`, later than every day recorded so far; the other slots are untouched
    have hk : s.intwick + 1 < s.dev.length := lt_of_lt_of_le hlt hlen
    rw [Recorded, hi1, hd1, length_setAt]
    refine ⟨⟨fun i h1 h2 => ?_, fun i j h1 hij hj => ?_⟩, rfl⟩
    · rw [getD_setAt]
      split_ifs
      · exact ⟨hlo, le_refl _⟩
      · have := hrec.1 i h1 (by omega)
        exact ⟨this.1, by omega⟩
    · rw [getD_setAt, getD_setAt, if_neg (by omega)]
      split_ifs
      · have := (hrec.1 i h1 (by omega)).2
        omega
      · exact hrec.2 i j h1 hij (by omega)

theorem run_recorded (nrentw lo top : ℕ) (tsum : List ℚ) (days : List (ℕ × Option ℚ × (ℕ → Option ℚ))) (s : Stage ℚ)
    (hi : ℕ) (hlen : nrentw ≤ s.dev.length) (hrec : Recorded s lo hi) (hle : hi ≤ top)
    (hall : ∀ x ∈ days, hi < x.1 ∧ lo ≤ x.1 ∧ x.1 ≤ top) (hpw : days.Pairwise (fun a b => a.1 < b.1)) :
    Recorded (run nrentw tsum days s) lo top := by
  fun_induction run nrentw tsum days s generalizing hi with
  | case1 => exact hrec.mono hle
  | case2 day e d rest s ih =>
    rw [List.forall_mem_cons] at hall
    rw [List.pairwise_cons] at hpw
    obtain ⟨hr, hl⟩ := (stageStep_cases nrentw day tsum e d s).recorded hlen hrec hall.1.1 hall.1.2.1
    exact ih day (by rw [hl]; exact hlen) hr hall.1.2.2 (fun y hy => ⟨hpw.1 y hy, (hall.2 y hy).2⟩) hpw.2

theorem run_append (nrentw : ℕ) (tsum : List ℚ) (a b : List (ℕ × Option ℚ × (ℕ → Option ℚ))) (s : Stage ℚ) :
    run nrentw tsum (a ++ b) s = run nrentw tsum b (run nrentw tsum a s) := by
  fun_induction run nrentw tsum a s with
  | case1 => rfl
  | case2 day e d rest s ih => simpa only [List.cons_append, run] using ih

theorem run_intwick_bounds (nrentw : ℕ) (tsum : List ℚ) (days : List (ℕ × Option ℚ × (ℕ → Option ℚ))) (s : Stage ℚ) :
    s.intwick ≤ (run nrentw tsum days s).intwick ∧ (run nrentw tsum days s).intwick ≤ s.intwick + days.length := by
  fun_induction run nrentw tsum days s with
  | case1 => simp
  | case2 day e d rest s ih =>
    simp only [List.length_cons]
    rcases stageStep_cases nrentw day tsum e d s with ⟨h1, _, _⟩ | ⟨_, h1, _, _⟩ <;> omega

theorem updLow_pos (dt w g d : ℚ) : 0 < (updLow dt w g d).1 := by
  simp only [updLow]
  split_ifs with h
  · have h0 : (0 : ℚ) < 1e-13 := by norm_num
    dsimp only
    linarith
  · norm_num

theorem updHigh_nonneg (dt : ℚ) (b : Bool) (w g d d1 d2 d3 : ℚ) : 0 ≤ (updHigh dt b w g d d1 d2 d3).1 := by
  simp only [updHigh]
  exact ite_of_imp (fun u : ℚ × ℚ => 0 ≤ u.1) (fun _ => le_refl _) not_lt.mp

theorem updLai_nonneg (e : OrganEnv ℚ) (lai laimax g d : ℚ) : 0 ≤ (updLai e lai laimax g d).1 := by
  simp only [updLai, ← max_def_lt]
  exact le_max_right _ _

theorem laiFloor_pos (lai : ℚ) : 0 < laiFloor lai := by
  simp only [laiFloor]
  split_ifs with h
  · norm_num
  · linarith

/-- invariant of the organ loop before organ number `i`, about the masses written so far and the LAI; the organs 1–3
are root, leaf, stem -/
structure OrgInv (i : ℕ) (worg : List ℚ) (lai : ℚ) : Prop where
  len : worg.length = i
  nonneg : ∀ w ∈ worg, (0 : ℚ) ≤ w
  lai : 0 ≤ lai
  low : ∀ k, k < 3 → k < i → 0 < worg.getD k 0

theorem organStep_inv (e : OrganEnv ℚ) (gehalt : ℚ) (st : OrgState ℚ) (i : ℕ) (p : OrganPar ℚ) (w dOld : ℚ)
    (h : OrgInv i st.worg st.lai) :
    OrgInv (i + 1) (organStep e gehalt st i p w dOld).worg (organStep e gehalt st i p w dOld).lai := by
  obtain ⟨hlen, hnn, hlai, hpos⟩ := h
  simp only [organStep]
  refine ⟨by simp [hlen], List.forall_mem_append.2 ⟨hnn, List.forall_mem_singleton.2 ?_⟩, ?_, fun k hk3 hk => ?_⟩
  · exact ite_of_both (fun u : ℚ × ℚ => 0 ≤ u.1) _ (updLow_pos _ _ _ _).le (updHigh_nonneg _ _ _ _ _ _ _ _)
  · exact ite_of_both (fun l : ℚ × ℚ => 0 ≤ l.1) _ (updLai_nonneg _ _ _ _ _) hlai
  · by_cases hki : k < i
    · rw [List.getD_append _ _ _ _ (by omega)]
      exact hpos k hk3 hki
    · obtain rfl : k = st.worg.length := by omega
      rw [List.getD_append_right _ _ _ _ (le_refl _), if_pos (by omega)]
      simpa using updLow_pos _ _ _ _

theorem organLoop_inv (e : OrganEnv ℚ) (gehalt : ℚ) (orgs : List (OrganPar ℚ × ℚ × ℚ)) (i : ℕ) (st : OrgState ℚ)
    (h : OrgInv i st.worg st.lai) :
    OrgInv (i + orgs.length) (organLoop e gehalt i orgs st).worg (organLoop e gehalt i orgs st).lai := by
  fun_induction organLoop e gehalt i orgs st with
  | case1 => exact h
  | case2 i p w d rest st ih =>
    have := ih (organStep_inv e gehalt st i p w d h)
    rwa [Nat.add_right_comm] at this

theorem organs_inv (e : OrganEnv ℚ) (gehalt lai0 laimax0 pesum0 : ℚ) (above : List ℕ) (orgs : List (OrganPar ℚ × ℚ × ℚ)) :
    OrgInv orgs.length (organs e gehalt lai0 laimax0 pesum0 above orgs).worg (organs e gehalt lai0 laimax0 pesum0 above orgs).lai := by
  rw [← Nat.zero_add orgs.length]
  exact organLoop_inv e gehalt orgs 0 _ ⟨rfl, fun _ h => by simp at h, (laiFloor_pos lai0).le, fun _ _ h => by omega⟩

theorem obmas_eq_sum (above : List ℕ) (worg : List ℚ) : obmas above worg = (above.map fun k => worg.getD (k - 1) 0).sum := by
  unfold obmas; rw [List.sum_eq_foldl, List.foldl_map]

theorem obmas_nonneg (above : List ℕ) (worg : List ℚ) (h : ∀ w ∈ worg, (0 : ℚ) ≤ w) : 0 ≤ obmas above worg := by
  rw [obmas_eq_sum]
  refine List.sum_nonneg fun x hx => ?_
  obtain ⟨k, _, rfl⟩ := List.mem_map.mp hx
  exact getD_of_all h le_rfl _

theorem wugehCore_grow (wumalt wumas guardv denom wugeh uptake wgmax : ℚ) (hgrow : wumalt < wumas) :
    wugehCore wumalt wumas guardv denom wugeh uptake wgmax =
      max (min (if 0 < guardv then (wumalt * wugeh + min 1 ((wumas - wumalt) / denom) * uptake) / wumas else wugeh) wgmax) 0.005 := by
  simp only [wugehCore, fmin, if_pos hgrow, ← max_def_lt, ← min_def_lt']

/-- the root N after the day, WUMAS·WUGEH', is covered by the crop N after the day, `P` + uptake: what makes GEHOB ≥ 0
(the hypotheses are read in the docstring of `C09_gehob_nonneg`) -/
theorem wugehCore_rootN_le (wumalt wumas guardv denom wugeh uptake wgmax P : ℚ)
    (hw : 0 < wumas) (hg : 0 ≤ wugeh) (hu : 0 ≤ uptake) (hroot : wumalt * wugeh ≤ P)
    (hfloor : 0.005 * wumas ≤ P + uptake)
    (hstall : wumalt < wumas → ¬ 0 < guardv → wumas * wugeh ≤ P + uptake) :
    wumas * wugehCore wumalt wumas guardv denom wugeh uptake wgmax ≤ P + uptake := by
  by_cases h1 : wumalt < wumas
  · rw [wugehCore_grow _ _ _ _ _ _ _ h1, mul_max_of_nonneg _ _ hw.le]
    refine max_le (le_trans (mul_le_mul_of_nonneg_left (min_le_left _ _) hw.le) ?_) (by linarith)
    split_ifs with h2
    · -- the root receives the share min(1, ·) ≤ 1 of the uptake: WUMAS·w1 = WUMALT·WUGEH + share·U
      rw [mul_div_cancel₀ _ hw.ne']
      have := mul_le_of_le_one_left hu (min_le_left 1 ((wumas - wumalt) / denom))
      linarith
    · exact hstall h1 h2
  · simp only [wugehCore, if_neg h1]
    have := mul_le_mul_of_nonneg_right (not_lt.mp h1) hg
    linarith

theorem rootLimit_eq (wurzmax n : ℕ) (wumaxpf : ℚ) :
    rootLimit wurzmax n wumaxpf = max (min ((Conv.roundNat ((wurzmax : ℚ) * (wumaxpf / 11.0)) : ℕ) : ℚ) (n : ℚ)) 1 := by
  simp only [rootLimit, Conv.ofNat, ← max_def_lt, ← min_def_lt']

theorem rootLimit_ge_one (wurzmax n : ℕ) (wumaxpf : ℚ) : 1 ≤ rootLimit wurzmax n wumaxpf := by
  rw [rootLimit_eq]; exact le_max_right _ _

theorem rootLimit_le (wurzmax n : ℕ) (wumaxpf : ℚ) (hn : 1 ≤ n) : rootLimit wurzmax n wumaxpf ≤ (n : ℚ) := by
  rw [rootLimit_eq]; exact max_le (min_le_right _ _) (by exact_mod_cast hn)

theorem rootLimit_le_round (wurzmax n : ℕ) (wumaxpf : ℚ) :
    rootLimit wurzmax n wumaxpf ≤ max 1 ((Conv.roundNat ((wurzmax : ℚ) * (wumaxpf / 11.0)) : ℕ) : ℚ) := by
  rw [rootLimit_eq, max_comm]; exact max_le_max_left _ (min_le_left _ _)

theorem qrezClamp_eq (qrez wurm dz : ℚ) : qrezClamp qrez wurm dz = max (min qrez 0.35) (4.5 / (wurm * dz)) := by
  simp only [qrezClamp, ← max_def_lt, ← min_def_lt']

theorem qrezClamp_bounds (qrez wurm dz : ℚ) (hw : 1 ≤ wurm) (hdz : 0 < dz) (hdz2 : dz ≤ 12) :
    1 ≤ 4.5 / qrezClamp qrez wurm dz / dz ∧ 4.5 / qrezClamp qrez wurm dz / dz ≤ wurm := by
  have hwd : 0 < wurm * dz := by positivity
  have hq : 4.5 / (wurm * dz) ≤ qrezClamp qrez wurm dz := by rw [qrezClamp_eq]; exact le_max_right _ _
  have hpos : 0 < qrezClamp qrez wurm dz * dz := mul_pos (lt_of_lt_of_le (by positivity) hq) hdz
  rw [div_div, le_div_iff₀ hpos, div_le_iff₀ hpos, one_mul]
  constructor
  · -- Qrez·DZ ≤ max(0.35·12, 4.5/WURM) ≤ 4.5
    rw [qrezClamp_eq, max_mul_of_nonneg _ _ hdz.le, div_mul_eq_mul_div, mul_div_mul_right _ _ hdz.ne']
    exact max_le (le_trans (mul_le_mul (min_le_right _ _) hdz2 hdz.le (by norm_num)) (by norm_num))
      (div_le_self (by norm_num) hw)
  · -- 4.5 = WURM · (4.5/(WURM·DZ)) · DZ ≤ WURM · Qrez · DZ
    have := mul_le_mul_of_nonneg_left (mul_le_mul_of_nonneg_right hq hdz.le) (le_trans zero_le_one hw)
    rwa [div_mul_eq_mul_div, mul_div_mul_right _ _ hdz.ne', mul_div_cancel₀ _ (by positivity)] at this

end Hermes.Crop
