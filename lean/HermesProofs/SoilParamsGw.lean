/-
The saturated zone and the groundwater-change step (model HermesModel/SoilParams.lean) over ℚ.  Both saturated-zone rules
(`satInput`, `setFieldCapacityWithGW`) map over the layers with a running index and change a layer only by moving its field
capacity towards its pore volume (`Raised`); what the day loop's state inherits from the layers the routes assign follows
from that.
-/
import HermesProofs.SoilParams
import HermesProofs.PlantArith
import HermesProofs.ListLemmas
import Mathlib.Tactic.Linarith

namespace Hermes.SoilParams

theorem forall₂_mapIdx {β : Type} {R : β → β → Prop} : ∀ (ls : List β) (f : Nat → β → β),
    (∀ i x, R x (f i x)) → List.Forall₂ R ls (ls.mapIdx f)
  | [], _, _ => List.Forall₂.nil
  | x :: xs, f, h => by
    rw [List.mapIdx_cons]
    exact List.Forall₂.cons (h 0 x) (forall₂_mapIdx xs _ (fun i => h (i + 1)))

theorem saturateFrom_eq (frm l : Nat) (ls : List (Layer ℚ)) :
    saturateFrom frm l ls = ls.mapIdx (fun i x => if frm ≤ l + i then { x with w := x.porges } else x) :=
  eq_mapIdx_of_step (saturateFrom frm) (fun j x => if frm ≤ j then { x with w := x.porges } else x)
    (fun _ => rfl) (fun _ _ _ => rfl) ls l

/-- init.go:90-98 for the layer with the 1-based number `j` -/
def setFcAt (first : Nat) (fr : ℚ) (j : Nat) (x : Layer ℚ) : Layer ℚ :=
  if j = first then { x with w := (1.0 - fr) * x.porges + x.w * fr }
  else if first < j then { x with w := x.porges } else x

theorem setFcFrom_eq (first : Nat) (fr : ℚ) (l : Nat) (ls : List (Layer ℚ)) :
    setFcFrom first fr l ls = ls.mapIdx (fun i => setFcAt first fr (l + i)) :=
  eq_mapIdx_of_step (setFcFrom first fr) (setFcAt first fr) (fun _ => rfl) (fun _ _ _ => rfl) ls l

theorem setFc_length (grw : ℚ) (ls : List (Layer ℚ)) : (setFieldCapacityWithGW grw ls).length = ls.length := by
  unfold setFieldCapacityWithGW
  rw [setFcFrom_eq, List.length_mapIdx]

theorem restoreN_eq (n : Nat) : ∀ (cur bak : List (Layer ℚ)), cur.length = n → bak.length = n → restoreN n cur bak = bak := by
  induction n with
  | zero =>
    intro cur bak h1 h2
    rw [List.length_eq_zero_iff.mp h1, List.length_eq_zero_iff.mp h2]
    rfl
  | succ m ih =>
    intro cur bak h1 h2
    match cur, bak, h1, h2 with
    | c :: cs, b :: bs, h1, h2 =>
      simp only [restoreN]
      rw [ih cs bs (by simpa using h1) (by simpa using h2)]

/-- `math.Mod(x, 1)` as `x − int(x)` for `x ≥ 0` lies in [0,1) -/
theorem trunc_spec (x : ℚ) (hx : 0 ≤ x) :
    0 ≤ x - Conv.ofNat (Conv.truncNat x) ∧ x - Conv.ofNat (Conv.truncNat x) < 1 := by
  show 0 ≤ x - (((⌊x⌋).toNat : ℕ) : ℚ) ∧ x - (((⌊x⌋).toNat : ℕ) : ℚ) < 1
  rw [Int.floor_toNat]
  exact ⟨sub_nonneg.mpr (Nat.floor_le hx), sub_lt_iff_lt_add'.mpr (Nat.lt_floor_add_one x)⟩

/-- `y` is `x` with the field capacity moved towards the pore volume (unless it lies above it) -/
structure Raised (x y : Layer ℚ) : Prop where
  wmin : y.wmin = x.wmin
  porges : y.porges = x.porges
  wnor : y.wnor = x.wnor
  w : x.w ≤ x.porges → x.w ≤ y.w ∧ y.w ≤ x.porges

theorem Raised.refl (x : Layer ℚ) : Raised x x := ⟨rfl, rfl, rfl, fun h => ⟨le_refl _, h⟩⟩

theorem Raised.saturate (x : Layer ℚ) : Raised x { x with w := x.porges } := ⟨rfl, rfl, rfl, fun h => ⟨h, le_refl _⟩⟩

theorem Raised.trans {x y z : Layer ℚ} (h1 : Raised x y) (h2 : Raised y z) : Raised x z := by
  refine ⟨h2.wmin.trans h1.wmin, h2.porges.trans h1.porges, h2.wnor.trans h1.wnor, fun h => ?_⟩
  obtain ⟨c1, c2⟩ := h1.w h
  obtain ⟨d1, d2⟩ := h2.w (h1.porges ▸ c2)
  exact ⟨c1.trans d1, h1.porges ▸ d2⟩

theorem Raised.ordered {x y : Layer ℚ} (h : Raised x y) (o : Ordered x) : Ordered y := by
  obtain ⟨o1, o2, o3, o4⟩ := o
  obtain ⟨b1, b2⟩ := h.w o3
  exact ⟨h.wmin ▸ o1, h.wmin ▸ o2.trans_le b1, h.porges ▸ b2, h.porges ▸ o4⟩

theorem forall₂_raised_ordered {l1 l2 : List (Layer ℚ)} (h : List.Forall₂ Raised l1 l2)
    (ho : ∀ x ∈ l1, Ordered x) : ∀ y ∈ l2, Ordered y := by
  induction h with
  | nil => simp
  | cons hxy _ ih =>
    rw [List.forall_mem_cons] at ho ⊢
    exact ⟨hxy.ordered ho.1, ih ho.2⟩

theorem forall₂_raised_trans {l1 l2 l3 : List (Layer ℚ)} (h1 : List.Forall₂ Raised l1 l2)
    (h2 : List.Forall₂ Raised l2 l3) : List.Forall₂ Raised l1 l3 := by
  induction h1 generalizing l3 with
  | nil => exact h2
  | cons hxy _ ih =>
    obtain ⟨z, r, hyz, hr, rfl⟩ := List.forall₂_cons_left_iff.mp h2
    exact .cons (hxy.trans hyz) (ih hr)

theorem raised_head_between {x : Layer ℚ} {rest l : List (Layer ℚ)} (h : List.Forall₂ Raised (x :: rest) l) {v : ℚ}
    (hp : x.w ≤ x.porges) (h1 : x.wmin < v) (h2 : v < x.w) : ∃ y, l[0]? = some y ∧ y.wmin < v ∧ v < y.w := by
  obtain ⟨y, r, a, _, rfl⟩ := List.forall₂_cons_left_iff.mp h
  exact ⟨y, rfl, a.wmin ▸ h1, lt_of_lt_of_le h2 (a.w hp).1⟩

theorem saturateFrom_raised (frm l : Nat) (ls : List (Layer ℚ)) :
    List.Forall₂ Raised ls (saturateFrom frm l ls) := by
  rw [saturateFrom_eq]
  refine forall₂_mapIdx ls _ (fun i x => ?_)
  by_cases h : frm ≤ l + i
  · rw [if_pos h]; exact Raised.saturate x
  · rw [if_neg h]; exact Raised.refl x

theorem satInput_raised (gw : ℚ) (n : Nat) (ls : List (Layer ℚ)) : List.Forall₂ Raised ls (satInput gw n ls) := by
  unfold satInput
  split
  · exact saturateFrom_raised _ _ _
  · exact List.forall₂_same.mpr (fun x _ => Raised.refl x)

theorem setFcAt_raised (first : Nat) {fr : ℚ} (f0 : 0 ≤ fr) (f1 : fr ≤ 1) (j : Nat) (x : Layer ℚ) :
    Raised x (setFcAt first fr j x) := by
  unfold setFcAt
  split
  · refine ⟨rfl, rfl, rfl, fun hw => ?_⟩
    exact lit1 ▸ mix_between hw f0 f1
  · split
    · exact Raised.saturate x
    · exact Raised.refl x

theorem setFcAt_below {first j : Nat} {fr : ℚ} (h : first < j ∨ j = first ∧ fr = 0) (x : Layer ℚ) :
    (setFcAt first fr j x).w = (setFcAt first fr j x).porges := by
  unfold setFcAt
  rcases h with h | ⟨rfl, rfl⟩
  · rw [if_neg h.ne', if_pos h]
  · rw [if_pos rfl]
    show (1.0 - 0) * x.porges + x.w * 0 = x.porges
    rw [lit1]; ring

/-- the layer with 0-based index `i` (1-based `1 + i`) spans the depths `i … i+1` dm; with its upper edge at or below the
level it lies below the layer `first = int(GRW+1)`, or is that layer with the fraction 0 -/
theorem below_first {first i : Nat} {grw fr : ℚ} (e : fr = grw + 1.0 - first) (f0 : 0 ≤ fr) (hb : grw ≤ i) :
    first < 1 + i ∨ 1 + i = first ∧ fr = 0 := by
  rw [lit1] at e
  have hF : (first : ℚ) ≤ ((1 + i : ℕ) : ℚ) := by push_cast; linarith
  rcases (Nat.cast_le.1 hF).lt_or_eq with h | rfl
  · exact Or.inl h
  · exact Or.inr ⟨rfl, by push_cast at e; linarith⟩

theorem setFc_raised (grw : ℚ) (hg : 0 ≤ grw) (ls : List (Layer ℚ)) :
    List.Forall₂ Raised ls (setFieldCapacityWithGW grw ls) := by
  obtain ⟨f0, f1⟩ := trunc_spec (grw + 1.0) (by rw [lit1]; linarith)
  unfold setFieldCapacityWithGW
  rw [setFcFrom_eq]
  exact forall₂_mapIdx ls _ (fun i => setFcAt_raised _ f0 f1.le _)

theorem setFc_below (grw : ℚ) (hg : 0 ≤ grw) (ls : List (Layer ℚ)) (i : Nat) (y : Layer ℚ)
    (hy : (setFieldCapacityWithGW grw ls)[i]? = some y) (hb : grw ≤ (i : ℚ)) : y.w = y.porges := by
  have f0 := (trunc_spec (grw + 1.0) (by rw [lit1]; linarith)).1
  unfold setFieldCapacityWithGW at hy
  rw [setFcFrom_eq, List.getElem?_mapIdx] at hy
  obtain ⟨x, -, rfl⟩ := Option.map_eq_some_iff.mp hy
  exact setFcAt_below (below_first rfl f0 hb) x

theorem expand_forall {P : Layer ℚ → Prop} (f : Horizon ℚ → Layer ℚ) (hs : List (Horizon ℚ)) (p : Nat)
    (hP : ∀ h ∈ hs, P (f h)) : ∀ l ∈ expand f p hs, P l := by
  fun_induction expand f p hs with
  | case1 => intro l hl; cases hl
  | case2 prev h t ih =>
    intro l hl
    rcases List.mem_append.mp hl with hl | hl
    · exact (List.mem_replicate.mp hl).2 ▸ hP h List.mem_cons_self
    · exact ih (fun h' hm => hP h' (List.mem_cons_of_mem _ hm)) l hl

theorem expand_length (f g : Horizon ℚ → Layer ℚ) : ∀ (hs : List (Horizon ℚ)) (p : Nat),
    (expand f p hs).length = (expand g p hs).length := by
  intro hs
  induction hs with
  | nil => intro p; simp [expand]
  | cons h t ih => intro p; simp [expand, ih]

theorem expand_head (f : Horizon ℚ → Layer ℚ) (h : Horizon ℚ) (t : List (Horizon ℚ)) (hl : 0 < h.lower) :
    ∃ rest, expand f 0 (h :: t) = f h :: rest := by
  obtain ⟨m, hm⟩ : ∃ m, h.lower = m + 1 := ⟨h.lower - 1, by omega⟩
  refine ⟨List.replicate m (f h) ++ expand f h.lower t, ?_⟩
  simp only [expand, Nat.sub_zero]
  rw [hm, List.replicate_succ]
  simp

theorem gwStep_static (k : Nat) (hs : List (Horizon ℚ)) (n : Nat) (s : St ℚ) (g : ℚ) :
    (gwStep k hs n s g).bak = s.bak ∧ (gwStep k hs n s g).cappar = s.cappar := by
  unfold gwStep
  split <;> exact ⟨rfl, rfl⟩

theorem gwStep_length (k : Nat) (hs : List (Horizon ℚ)) (n : Nat) (s : St ℚ) (g : ℚ)
    (hlen : ∀ f : Horizon ℚ → Layer ℚ, (expand f 0 hs).length = n) (h1 : s.cur.length = n) (h2 : s.bak.length = n) :
    (gwStep k hs n s g).cur.length = n := by
  unfold gwStep
  split <;> simp only [setFc_length]
  exacts [hlen _, (restoreN_eq n s.cur s.bak h1 h2).symm ▸ h2]

/-- with `n` layers in the state, the groundwater step reads of it only the backups and the flag -/
theorem gwStep_reads (k : Nat) (hs : List (Horizon ℚ)) (n : Nat) (s : St ℚ) (g : ℚ) (hne : hs ≠ []) (hn : 0 < n)
    (h1 : s.cur.length = n) (h2 : s.bak.length = n) :
    gwStep k hs n s g = gwStep k hs n { s with cur := s.bak, wred := 0 } g := by
  unfold gwStep
  simp only
  split
  · cases hs with
    | nil => exact absurd rfl hne
    | cons h0 t0 => rfl
  · rw [restoreN_eq n s.cur s.bak h1 h2, restoreN_eq n s.bak s.bak h2 h2]
    cases hb : s.bak with
    | nil => rw [hb] at h2; exact absurd h2 hn.ne
    | cons b0 bs => rfl

theorem gw_history (k : Nat) (hs : List (Horizon ℚ)) (n : Nat) (hne : hs ≠ []) (hn : 0 < n)
    (hlen : ∀ f : Horizon ℚ → Layer ℚ, (expand f 0 hs).length = n) (gs : List ℚ) (g : ℚ) :
    ∀ s : St ℚ, s.cur.length = n → s.bak.length = n →
      (gs ++ [g]).foldl (gwStep k hs n) s = gwStep k hs n { s with cur := s.bak, wred := 0 } g := by
  induction gs with
  | nil => exact fun s => gwStep_reads k hs n s g hne hn
  | cons g1 t ih =>
    intro s h1 h2
    obtain ⟨hb, hc⟩ := gwStep_static k hs n s g1
    rw [List.cons_append, List.foldl_cons, ih _ (gwStep_length k hs n s g1 hlen h1 h2) (hb ▸ h2), hb, hc]

theorem inputState_length (k : Nat) (hs : List (Horizon ℚ)) (gw grwInit : ℚ) (n : Nat)
    (hlen : ∀ f : Horizon ℚ → Layer ℚ, (expand f 0 hs).length = n) :
    (initState (inputState k hs gw gw n) grwInit).cur.length = n ∧
      (initState (inputState k hs gw gw n) grwInit).bak.length = n := by
  simp only [initState, inputState, setFc_length, ← (satInput_raised gw n _).length_eq]
  exact ⟨hlen _, hlen _⟩

end Hermes.SoilParams
