/-
The texture-table route of C15: `Hydro` (model HermesModel/SoilParams.lean) over the whole regenerated HYPAR table.
`Hydro` reads C_org and the groundwater level only through threshold comparisons, so its corrections are functions of
two bracket indices; written as integer tables in half percent, every fact asked of a cell is a comparison of small
integers, and table × density class × brackets is swept by the kernel in ℕ.  The cells on which the organic-matter
correction lifts FC above PS (finding F17) are data (`fcGtPsFrom`); the sweep checks FC ≤ PS off that list, FC > PS on it.
The last lemmas carry the facts of a cell to the layer of a horizon (stone factor).
-/
import HermesProofs.RatInst
import HermesProofs.SoilParams
import HermesProofs.Ite
import HermesModel.SoilParams
import Mathlib.Tactic.Linarith
import Mathlib.Tactic.NormNum
import Mathlib.Tactic.SplitIfs
import Mathlib.Tactic.Qify

namespace Hermes.SoilParams

/-- index of the organic-carbon bracket among the thresholds of `krrCorg`, `krgCorg` -/
def corgBr (c : ℚ) : Nat :=
  if 5.2 < c then 6 else if 4.6 < c then 5 else if 3.5 < c then 4 else if 2.3 < c then 3
  else if 1.16 < c then 2 else if 0.58 < c then 1 else 0

/-- index of the groundwater bracket among the thresholds of `krrGw` (dm) -/
def gwBr (g : ℚ) : Nat :=
  if g < 8 then 0 else if g < 9 then 1 else if g < 20 then 2 else if g < 30 then 3
  else if 35 < g then 5 else 4

theorem gwBr_lt (g : ℚ) : gwBr g < 6 := by
  unfold gwBr
  iterate 5 refine ite_of_both (· < 6) _ (by decide) ?_
  decide

/-- the bracket of `c` among descending thresholds: how many of them lie below `c` -/
def bracket : List ℚ → ℚ → Nat
  | [], _ => 0
  | t :: ts, c => if t < c then ts.length + 1 else bracket ts c

theorem bracket_le : ∀ (l : List ℚ) (c : ℚ), bracket l c ≤ l.length
  | [], _ => Nat.le_refl 0
  | t :: ts, c => by
    unfold bracket
    split
    · exact Nat.le_refl _
    · exact Nat.le_succ_of_le (bracket_le ts c)

theorem bracket_iff : ∀ (l : List ℚ), l.Pairwise (· > ·) → ∀ (c : ℚ) (i : Nat) (h : i < l.length),
    l[i] < c ↔ l.length - i ≤ bracket l c
  | [], _, _, _, h => absurd h (Nat.not_lt_zero _)
  | t :: ts, hp, c, i, h => by
    rw [List.pairwise_cons] at hp
    unfold bracket
    by_cases ht : t < c
    · rw [if_pos ht]
      refine iff_of_true ?_ (Nat.sub_le _ _)
      cases i with
      | zero => exact ht
      | succ j => exact lt_trans (hp.1 _ (List.getElem_mem _)) ht
    · rw [if_neg ht]
      cases i with
      | zero =>
        refine iff_of_false ht (fun hle => ?_)
        have := bracket_le ts c
        simp only [List.length_cons, Nat.sub_zero] at hle
        omega
      | succ j =>
        have := bracket_iff ts hp.2 c j (Nat.lt_of_succ_lt_succ h)
        simpa using this

theorem corgBr_eq_bracket (c : ℚ) : corgBr c = bracket [5.2, 4.6, 3.5, 2.3, 1.16, 0.58] c := rfl

theorem corgBr_lt (c : ℚ) : corgBr c < 7 := by
  rw [corgBr_eq_bracket]
  exact Nat.lt_succ_of_le (bracket_le _ c)

theorem corgBr_iff (c : ℚ) :
    ((0.58 : ℚ) < c ↔ 1 ≤ corgBr c) ∧ ((1.16 : ℚ) < c ↔ 2 ≤ corgBr c) ∧ ((2.3 : ℚ) < c ↔ 3 ≤ corgBr c) ∧
    ((3.5 : ℚ) < c ↔ 4 ≤ corgBr c) ∧ ((4.6 : ℚ) < c ↔ 5 ≤ corgBr c) ∧ ((5.2 : ℚ) < c ↔ 6 ≤ corgBr c) := by
  rw [corgBr_eq_bracket]
  have h := bracket_iff [5.2, 4.6, 3.5, 2.3, 1.16, 0.58] (by decide +kernel) c
  exact ⟨h 5 (by decide), h 4 (by decide), h 3 (by decide), h 2 (by decide), h 1 (by decide), h 0 (by decide)⟩

/-- not through `bracket`: `gwBr` tests `g < t` upwards and `35 < g` at the end, it is not the number of thresholds
below `g` -/
theorem gwBr_iff (g : ℚ) :
    (g < (8.0 : ℚ) ↔ gwBr g < 1) ∧ (g < (9.0 : ℚ) ↔ gwBr g < 2) ∧ (g < (20.0 : ℚ) ↔ gwBr g < 3) ∧
    (g < (30.0 : ℚ) ↔ gwBr g < 4) ∧ ((35.0 : ℚ) < g ↔ 5 ≤ gwBr g) := by
  unfold gwBr
  -- six branches; in each, the comparisons the branch knows decide all five equivalences
  split_ifs <;> norm_num at * <;> refine ⟨?_, ?_, ?_, ?_, ?_⟩ <;> linarith

/-! The corrections in half percent, so that 7.5, 3.5 … are whole; each table repeats the `if` chain of the model's
function with the threshold replaced by its bracket index. -/

/-- `2 · krrCorg` by C_org bracket -/
def krrCorgN : TexClass → Nat → Nat
  | .sLight, i => if 5 ≤ i then 20 else if 3 ≤ i then 15 else if 2 ≤ i then 7 else 0
  | .sOther, i => if 5 ≤ i then 23 else if 3 ≤ i then 16 else if 2 ≤ i then 7 else if 1 ≤ i then 3 else 0
  | .u, i => if 6 ≤ i then 24 else if 5 ≤ i then 14 else if 4 ≤ i then 10 else if 3 ≤ i then 2 else 0
  | .l, i => if 5 ≤ i then 14 else if 4 ≤ i then 8 else if 3 ≤ i then 2 else 0
  | .tu23, i => if 5 ≤ i then 8 else if 4 ≤ i then 4 else 0
  | .tu4, i => if 5 ≤ i then 14 else if 4 ≤ i then 8 else if 3 ≤ i then 2 else 0
  | _, _ => 0

/-- `2 · krgCorg` by C_org bracket -/
def krgCorgN : TexClass → Nat → Nat
  | .sLight, i => if 5 ≤ i then 20 else if 3 ≤ i then 13 else if 2 ≤ i then 5 else 0
  | .sOther, i => if 5 ≤ i then 28 else if 3 ≤ i then 20 else if 2 ≤ i then 9 else if 1 ≤ i then 3 else 0
  | _, _ => 0

/-- `2 · krrGw + 4` by groundwater bracket (the correction goes down to −2 %; the shift keeps it in ℕ) -/
def krrGwN : TexClass → Nat → Nat
  | .sLight, j | .sOther, j => if j < 2 then 8 else if ¬ j < 3 ∧ j < 4 then 2 else if ¬ j < 4 then 0 else 4
  | .u, j => if j < 1 then 6 else if 5 ≤ j then 2 else 4
  | .l, j | .tPure, j | .tu23, j | .tu4, j | .tOther, j => if j < 1 then 6 else 4
  | _, _ => 4

/-! The cast and the halving go into the branches (`apply_ite`); the two `if` chains then agree leaf by leaf. -/

theorem krrCorg_eq (cl : TexClass) (c : ℚ) : krrCorg cl c = (krrCorgN cl (corgBr c) : ℚ) / 2 := by
  obtain ⟨a1, a2, a3, a4, a5, a6⟩ := corgBr_iff c
  cases cl <;> simp only [krrCorg, krrCorgN, a1, a2, a3, a4, a5, a6, apply_ite (fun n : ℕ => (n : ℚ) / 2)] <;> norm_num

theorem krgCorg_eq (cl : TexClass) (c : ℚ) : krgCorg cl c = (krgCorgN cl (corgBr c) : ℚ) / 2 := by
  obtain ⟨a1, a2, a3, _, a5, _⟩ := corgBr_iff c
  cases cl <;> simp only [krgCorg, krgCorgN, a1, a2, a3, a5, apply_ite (fun n : ℕ => (n : ℚ) / 2)] <;> norm_num

theorem krrGw_eq (cl : TexClass) (g : ℚ) : krrGw cl g = (krrGwN cl (gwBr g) : ℚ) / 2 - 2 := by
  obtain ⟨a1, a2, a3, a4, a5⟩ := gwBr_iff g
  cases cl <;> simp only [krrGw, krrGwN, a1, a2, a3, a4, a5, apply_ite (fun n : ℕ => (n : ℚ) / 2 - 2)] <;> norm_num

theorem krr_eq (cl : TexClass) (c g : ℚ) :
    krr cl c g = ((krrGwN cl (gwBr g) + krrCorgN cl (corgBr c) : Nat) : ℚ) / 2 - 2 := by
  unfold krr
  rw [krrCorg_eq, krrGw_eq]
  push_cast
  linarith

/-- Cells in which the organic-matter correction lifts the field capacity above the pore volume
(finding F17), as data: (texture, density class, for each groundwater bracket the first organic-carbon
bracket from which FC > PS; 7 = never).  Cells not listed here are ordered. -/
def fcGtPsFrom : List (List Nat × Nat × List Nat) := [
  ([85, 85, 32], 1, [5, 5, 5, 5, 5, 6]), -- UU 
  ([85, 85, 32], 2, [5, 5, 5, 5, 5, 6]), -- UU 
  ([85, 85, 32], 3, [4, 4, 4, 4, 4, 4]), -- UU 
  ([85, 85, 32], 4, [4, 4, 4, 4, 4, 4]), -- UU 
  ([85, 85, 32], 5, [4, 4, 4, 4, 4, 4]), -- UU 
  ([85, 83, 32], 1, [5, 6, 6, 6, 6, 6]), -- US 
  ([85, 83, 32], 2, [5, 6, 6, 6, 6, 6]), -- US 
  ([85, 83, 32], 3, [4, 5, 5, 5, 5, 5]), -- US 
  ([85, 83, 32], 4, [5, 6, 6, 6, 6, 6]), -- US 
  ([85, 83, 32], 5, [5, 6, 6, 6, 6, 6]), -- US 
  ([85, 84, 50], 1, [6, 6, 6, 6, 6, 6]), -- UT2
  ([85, 84, 50], 2, [6, 6, 6, 6, 6, 6]), -- UT2
  ([85, 84, 50], 3, [4, 4, 4, 4, 4, 5]), -- UT2
  ([85, 84, 50], 4, [4, 4, 4, 4, 4, 4]), -- UT2
  ([85, 84, 50], 5, [4, 4, 4, 4, 4, 4]), -- UT2
  ([85, 84, 51], 1, [6, 6, 6, 6, 6, 6]), -- UT3
  ([85, 84, 51], 2, [6, 6, 6, 6, 6, 6]), -- UT3
  ([85, 84, 51], 3, [4, 5, 5, 5, 5, 5]), -- UT3
  ([85, 84, 51], 4, [4, 4, 4, 4, 4, 4]), -- UT3
  ([85, 84, 51], 5, [4, 4, 4, 4, 4, 4]), -- UT3
  ([85, 84, 52], 1, [6, 6, 6, 6, 6, 6]), -- UT4
  ([85, 84, 52], 2, [6, 6, 6, 6, 6, 6]), -- UT4
  ([85, 84, 52], 3, [5, 5, 5, 5, 5, 6]), -- UT4
  ([85, 84, 52], 4, [4, 4, 4, 4, 4, 4]), -- UT4
  ([85, 84, 52], 5, [4, 4, 4, 4, 4, 4]), -- UT4
  ([85, 84, 83], 1, [6, 6, 6, 6, 6, 6]), -- UTS
  ([85, 84, 83], 2, [6, 6, 6, 6, 6, 6]), -- UTS
  ([85, 84, 83], 3, [5, 6, 6, 6, 6, 6]), -- UTS
  ([85, 84, 83], 4, [4, 4, 4, 4, 4, 5]), -- UTS
  ([85, 84, 83], 5, [4, 4, 4, 4, 4, 5]), -- UTS
  ([85, 76, 83], 1, [6, 6, 6, 6, 6, 6]), -- ULS
  ([85, 76, 83], 2, [6, 6, 6, 6, 6, 6]), -- ULS
  ([85, 76, 83], 3, [5, 6, 6, 6, 6, 6]), -- ULS
  ([85, 76, 83], 4, [4, 4, 4, 4, 4, 5]), -- ULS
  ([85, 76, 83], 5, [4, 4, 4, 4, 4, 5]), -- ULS
  ([76, 83, 50], 4, [5, 5, 5, 5, 5, 5]), -- LS2
  ([76, 83, 50], 5, [5, 5, 5, 5, 5, 5]), -- LS2
  ([76, 83, 51], 3, [5, 7, 7, 7, 7, 7]), -- LS3
  ([76, 83, 51], 4, [5, 5, 5, 5, 5, 5]), -- LS3
  ([76, 83, 51], 5, [5, 5, 5, 5, 5, 5]), -- LS3
  ([76, 83, 52], 4, [5, 5, 5, 5, 5, 5]), -- LS4
  ([76, 83, 52], 5, [5, 5, 5, 5, 5, 5]), -- LS4
  ([76, 85, 32], 3, [5, 5, 5, 5, 5, 5]), -- LU 
  ([76, 85, 32], 4, [5, 5, 5, 5, 5, 5]), -- LU 
  ([76, 85, 32], 5, [5, 5, 5, 5, 5, 5]), -- LU 
  ([76, 84, 50], 3, [5, 5, 5, 5, 5, 5]), -- LT2
  ([76, 84, 50], 4, [4, 4, 4, 4, 4, 4]), -- LT2
  ([76, 84, 50], 5, [4, 4, 4, 4, 4, 4]), -- LT2
  ([76, 84, 51], 1, [5, 7, 7, 7, 7, 7]), -- LT3
  ([76, 84, 51], 2, [5, 7, 7, 7, 7, 7]), -- LT3
  ([76, 84, 51], 3, [4, 4, 4, 4, 4, 4]), -- LT3
  ([76, 84, 51], 4, [4, 4, 4, 4, 4, 4]), -- LT3
  ([76, 84, 51], 5, [4, 4, 4, 4, 4, 4]), -- LT3
  ([76, 84, 85], 3, [5, 7, 7, 7, 7, 7]), -- LTU
  ([76, 84, 85], 4, [4, 5, 5, 5, 5, 5]), -- LTU
  ([76, 84, 85], 5, [4, 5, 5, 5, 5, 5]), -- LTU
  ([76, 84, 83], 1, [5, 5, 5, 5, 5, 5]), -- LTS
  ([76, 84, 83], 2, [5, 5, 5, 5, 5, 5]), -- LTS
  ([76, 84, 83], 3, [5, 5, 5, 5, 5, 5]), -- LTS
  ([76, 84, 83], 4, [4, 5, 5, 5, 5, 5]), -- LTS
  ([76, 84, 83], 5, [4, 5, 5, 5, 5, 5]), -- LTS
  ([84, 85, 50], 1, [5, 7, 7, 7, 7, 7]), -- TU2
  ([84, 85, 50], 2, [5, 7, 7, 7, 7, 7]), -- TU2
  ([84, 85, 50], 3, [5, 5, 5, 5, 5, 5]), -- TU2
  ([84, 85, 50], 4, [5, 5, 5, 5, 5, 5]), -- TU2
  ([84, 85, 50], 5, [5, 5, 5, 5, 5, 5]), -- TU2
  ([84, 85, 51], 4, [5, 7, 7, 7, 7, 7]), -- TU3
  ([84, 85, 51], 5, [5, 7, 7, 7, 7, 7]), -- TU3
  ([84, 85, 52], 1, [5, 7, 7, 7, 7, 7]), -- TU4
  ([84, 85, 52], 2, [5, 7, 7, 7, 7, 7]), -- TU4
  ([84, 85, 52], 3, [5, 5, 5, 5, 5, 5]), -- TU4
  ([84, 85, 52], 4, [4, 5, 5, 5, 5, 5]), -- TU4
  ([84, 85, 52], 5, [4, 5, 5, 5, 5, 5]), -- TU4
  ([85, 78, 49], 3, [6, 6, 6, 6, 6, 7]), -- UN1
  ([85, 78, 49], 4, [5, 6, 6, 6, 6, 6]), -- UN1
  ([85, 78, 49], 5, [5, 6, 6, 6, 6, 6]), -- UN1
  ([85, 78, 50], 3, [6, 6, 6, 6, 6, 7]), -- UN2
  ([85, 78, 50], 4, [6, 7, 7, 7, 7, 7]), -- UN2
  ([85, 78, 50], 5, [6, 7, 7, 7, 7, 7]), -- UN2
  ([85, 78, 51], 3, [6, 6, 6, 6, 6, 6]), -- UN3
  ([85, 78, 51], 4, [5, 6, 6, 6, 6, 6]), -- UN3
  ([85, 78, 51], 5, [5, 6, 6, 6, 6, 6]) -- UN3
]

/-- the entry of `fcGtPsFrom` for a texture and a density class -/
def lookupExcl (codes : List Nat) (ld : Nat) : List (List Nat × Nat × List Nat) → Option (List Nat)
  | [] => none
  | (n, l, ms) :: rest => if n = codes ∧ l = ld then some ms else lookupExcl codes ld rest

/-- `true` on exactly the listed cells: texture, density class, C_org bracket `i`, groundwater bracket `j` -/
def fcGtPs (codes : List Nat) (ld i j : Nat) : Bool :=
  match lookupExcl codes ld fcGtPsFrom with
  | none => false
  | some ms => decide (ms.getD j 7 ≤ i)

/-- what the sweep establishes on one cell: 0 < WP < FC, PS < 1, WP < WRED < FC (WRED as `Hydro` computes it for a top
horizon without stones; `hydroWRed_scale` carries it to every stone fraction); PS < FC on the cells listed in `fcGtPsFrom`
(`excl`), FC ≤ PS on the others -/
structure CellFacts (codes : List Nat) (excl : Bool) (cell : Cell ℚ) : Prop where
  wp_pos : 0 < cell.lim
  wp_lt_fc : cell.lim < cell.feldw
  ps_lt_one : cell.prges < 1
  wp_lt_wred : cell.lim < hydroWRed codes cell 0
  wred_lt_fc : hydroWRed codes cell 0 < cell.feldw
  fc_ps : if excl then cell.prges < cell.feldw else cell.feldw ≤ cell.prges

/-- `CellFacts` in half percent.  `F N P` are the row's FK, nFK, GPV of the density column (percent), `K` is
`2·KRR + 4` and `G` is `2·KRG`, so the cell is FC = (2F + K − 4)/200, WP = (F − N)/100, PS = (2P + G)/200 and
WRED = WP + θ·N/100 with θ = 0.6 for sand, 0.66 otherwise.  In the order of `CellFacts`:
0 < WP ⇔ N < F;  WP < FC ⇔ 4 < 2N + K;  PS < 1 ⇔ 2P + G < 200;  WP < WRED ⇔ 0 < N;
WRED < FC ⇔ 20 < 4N + 5K (sand), 100 < 17N + 25K (otherwise);  FC ≤ PS ⇔ 2F + K ≤ 2P + G + 4.
`Nat.blt`, `Nat.ble` rather than `decide (_ < _)`: the kernel evaluates them on numerals in one step and has no
`Decidable` instance to unfold. -/
def cellCheckN (sand excl : Bool) (F N P K G : Nat) : Bool :=
  Nat.blt N F && Nat.blt 4 (2 * N + K) && Nat.blt (2 * P + G) 200 && Nat.blt 0 N &&
    (if sand then Nat.blt 20 (4 * N + 5 * K) else Nat.blt 100 (17 * N + 25 * K)) &&
    (if excl then Nat.blt (2 * P + G + 4) (2 * F + K) else Nat.ble (2 * F + K) (2 * P + G + 4))

theorem cellCheckN_sound (codes : List Nat) (excl : Bool) (F N P K G : Nat) (k g : ℚ)
    (hk : k = (K : ℚ) / 2 - 2) (hg : g = (G : ℚ) / 2) (h : cellCheckN (isSand codes) excl F N P K G = true) :
    CellFacts codes excl (Cell.mk ((F : ℚ) / 100.0) ((F : ℚ) / 100.0 - (N : ℚ) / 100.0) ((P : ℚ) / 100.0 + g / 100.0)
      ((F : ℚ) / 100.0 + k / 100.0) ((F : ℚ) / 100.0)) := by
  unfold cellCheckN at h
  simp only [Bool.and_eq_true, Nat.blt_eq] at h
  obtain ⟨⟨⟨⟨⟨h1, h2⟩, h3⟩, h4⟩, h5⟩, h6⟩ := h
  subst hk hg
  qify at h1 h2 h3 h4
  constructor <;> simp only [hydroWRed, calcWRed, lit100, lit1]
  · linarith only [h1]
  · linarith only [h2]
  · linarith only [h3]
  · cases isSand codes <;> simp only [if_true, Bool.false_eq_true, if_false] <;> linarith only [h4]
  · generalize isSand codes = sand at h5 ⊢
    cases sand <;> simp only [if_true, Bool.false_eq_true, if_false, Nat.blt_eq] at h5 ⊢ <;> qify at h5 <;>
      linarith only [h5]
  · cases excl <;> simp only [if_true, Bool.false_eq_true, if_false, Nat.blt_eq, Nat.ble_eq] at h6 ⊢ <;> qify at h6 <;>
      linarith only [h6]

/-- one row and density column over the seven C_org brackets and the six groundwater brackets; `excl i j` says whether
`fcGtPsFrom` lists the cell -/
def rowCheckN (cl : TexClass) (sand : Bool) (excl : Nat → Nat → Bool) (F N P : Nat) : Bool :=
  (List.range 7).all fun i => (List.range 6).all fun j =>
    cellCheckN sand (excl i j) F N P (krrGwN cl j + krrCorgN cl i) (krgCorgN cl i)

theorem lookupExcl_filter (codes : List Nat) (ld : Nat) (l : List (List Nat × Nat × List Nat)) :
    lookupExcl codes ld (l.filter fun e => e.1 == codes) = lookupExcl codes ld l := by
  fun_induction lookupExcl codes ld l with
  | case1 => rfl
  | case2 n l ms rest h =>
    simp only [List.filter_cons]
    rw [if_pos (beq_iff_eq.mpr h.1), lookupExcl, if_pos h]
  | case3 n l ms rest h ih =>
    simp only [List.filter_cons]
    split
    · rw [lookupExcl, if_neg h, ih]
    · exact ih

/-- every texture `Input` accepts that has a row × density classes 1-5.  The exception entry is matched out here
so that the kernel looks it up once per row and class and not once per bracket, and among the row's own entries, so that
it scans `fcGtPsFrom` once per row and not once per class. -/
def tableCheckN : Bool :=
  Generated.parcapTextures.all fun codes =>
    match lookupRow codes Generated.hyparRows with
    | none => true
    | some vals =>
      [1, 2, 3, 4, 5].all fun ld =>
        match ldColumn ld, lookupExcl codes ld (fcGtPsFrom.filter fun e => e.1 == codes) with
        | none, _ => false
        | some col, none =>
          rowCheckN (texClass codes) (isSand codes) (fun _ _ => false)
            (vals.getD col 0) (vals.getD (3 + col) 0) (vals.getD (6 + col) 0)
        | some col, some ms =>
          rowCheckN (texClass codes) (isSand codes) (fun i j => decide (ms.getD j 7 ≤ i))
            (vals.getD col 0) (vals.getD (3 + col) 0) (vals.getD (6 + col) 0)

theorem tableCheckN_true : tableCheckN = true := by decide +kernel

theorem rowCheckN_sound (codes vals : List Nat) (cl : TexClass) (ld col : Nat) (hcol : ldColumn ld = some col)
    (excl : Nat → Nat → Bool)
    (h : rowCheckN cl (isSand codes) excl (vals.getD col 0) (vals.getD (3 + col) 0) (vals.getD (6 + col) 0) = true)
    (c g : ℚ) :
    CellFacts codes (excl (corgBr c) (gwBr g)) (hydroRow cl vals ld c g) := by
  unfold rowCheckN at h
  rw [List.all_eq_true] at h
  have h1 := h _ (List.mem_range.mpr (corgBr_lt c))
  rw [List.all_eq_true] at h1
  have h2 := cellCheckN_sound codes _ _ _ _ _ _ (krr cl c g) (krgCorg cl c) (krr_eq cl c g) (krgCorg_eq cl c)
    (h1 _ (List.mem_range.mpr (gwBr_lt g)))
  unfold hydroRow
  rw [hcol]
  exact h2

theorem hydro_facts (codes vals : List Nat) (hrow : lookupRow codes Generated.hyparRows = some vals)
    (hvalid : codes ∈ Generated.parcapTextures) (ld : Nat) (hld : 1 ≤ ld ∧ ld ≤ 5) (c g : ℚ) :
    CellFacts codes (fcGtPs codes ld (corgBr c) (gwBr g)) (hydro codes ld c g) := by
  have h1 := List.all_eq_true.mp tableCheckN_true codes hvalid
  rw [hrow] at h1
  have h2 := List.all_eq_true.mp h1 ld
    (by obtain ⟨a, b⟩ := hld; simp only [List.mem_cons, List.not_mem_nil, or_false]; omega)
  rw [lookupExcl_filter] at h2
  unfold hydro fcGtPs
  rw [hrow]
  cases hcol : ldColumn ld with
  | none => rw [hcol] at h2; simp at h2
  | some col =>
    rw [hcol] at h2
    cases hl : lookupExcl codes ld fcGtPsFrom <;> rw [hl] at h2 <;>
      exact rowCheckN_sound codes vals _ ld col hcol _ h2 c g

/-! From a cell to the layer of a horizon: every value is multiplied by the stone factor `1 − stein`. -/

theorem tableLayer_ordered {codes : List Nat} {cell : Cell ℚ} (h : CellFacts codes false cell) {s : ℚ} (hs0 : 0 ≤ s)
    (hs1 : s < 1) : Ordered (tableLayer cell s) := by
  have ht : 0 < 1 - s := by linarith
  have hp := lt_of_lt_of_le (h.wp_pos.trans h.wp_lt_fc) h.fc_ps
  unfold Ordered tableLayer
  simp only [lit1]
  exact ⟨mul_pos h.wp_pos ht, mul_lt_mul_of_pos_right h.wp_lt_fc ht, mul_le_mul_of_nonneg_right h.fc_ps ht.le,
    lt_of_le_of_lt (mul_le_of_le_one_right hp.le (by linarith)) h.ps_lt_one⟩

theorem tableLayer_fc_gt_ps {codes : List Nat} {cell : Cell ℚ} (h : CellFacts codes true cell) {s : ℚ} (hs1 : s < 1) :
    (tableLayer cell s).porges < (tableLayer cell s).w := by
  unfold tableLayer
  simp only [lit1]
  exact mul_lt_mul_of_pos_right h.fc_ps (by linarith)

theorem hydroWRed_scale (codes : List Nat) (cell : Cell ℚ) (s : ℚ) :
    hydroWRed codes cell s = (1 - s) * hydroWRed codes cell 0 := by
  unfold hydroWRed
  rw [lit1, calcWRed_scale, sub_zero, mul_one, mul_one]

theorem table_wred_between_cell {codes : List Nat} {excl : Bool} {cell : Cell ℚ} (h : CellFacts codes excl cell) {s : ℚ}
    (hs1 : s < 1) :
    (tableLayer cell s).wmin < hydroWRed codes cell s ∧ hydroWRed codes cell s < (tableLayer cell s).w := by
  have ht : 0 < 1 - s := by linarith
  rw [hydroWRed_scale, mul_comm (1 - s)]
  unfold tableLayer
  simp only [lit1]
  exact ⟨mul_lt_mul_of_pos_right h.wp_lt_wred ht, mul_lt_mul_of_pos_right h.wred_lt_fc ht⟩

end Hermes.SoilParams
