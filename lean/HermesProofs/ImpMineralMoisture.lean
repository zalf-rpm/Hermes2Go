/-
`mineral` (hermes/nitro.go → `HermesModel/Generated/Impmineral.lean`) computes the moisture factor `MIRED[z]` of a warm layer by a
cascade over the water content and clamps it to [0,1] before any pool or sum is touched: the first phases of every walk over the
loop body that needs `0 ≤ MIRED[z] ≤ 1`.  What else such a walk tracks is a function `rest` of the state that element writes to
`MIRED` do not change.  No array length is tracked: a cell read after it was written holds the written value or, outside the array,
the default 0 (`rd_wr_self_of`), and every bound stated about a scratch cell of `mineral` holds of 0.
-/
import HermesModel.Generated.Impmineral
import HermesProofs.ImpLemmas
import Mathlib.Tactic.SplitIfs

namespace Hermes.Generated.Imp.mineral
open Hermes.Imp

variable {α : Type} (rest : St ℚ → α)

def IgnoresMired : Prop := ∀ (t : St ℚ) (zi : Int) (x : ℚ), rest { t with v_MIRED := wr t.v_MIRED zi x } = rest t

/-- nothing but the moisture factor array touched so far -/
def U (s t : St ℚ) : Prop := rest t = rest s

/-- after the lower clamp of the moisture factor -/
def M0 (s : St ℚ) (zi : Int) (t : St ℚ) : Prop := U rest s t ∧ 0 ≤ rd t.v_MIRED zi

/-- after the upper clamp -/
def M1 (s : St ℚ) (zi : Int) (t : St ℚ) : Prop := U rest s t ∧ 0 ≤ rd t.v_MIRED zi ∧ rd t.v_MIRED zi ≤ 1

variable {rest} {s t a b : St ℚ} {zi : Int}

theorem m0_clamp (hr : IgnoresMired rest) (h : U rest s t) :
    M0 rest s zi (if rd t.v_MIRED zi < 0.0 then { t with v_MIRED := wr t.v_MIRED zi 0.0 } else t) := by
  split_ifs with hc
  · exact ⟨(hr t zi _).trans h, rd_wr_self_of (P := fun x => 0 ≤ x) _ _ lit0.ge (le_refl _)⟩
  · exact ⟨h, not_lt.mp (lit0 ▸ hc)⟩

theorem m1_clamp (hr : IgnoresMired rest) (h : M0 rest s zi t) :
    M1 rest s zi (if 1.0 < rd t.v_MIRED zi then { t with v_MIRED := wr t.v_MIRED zi 1.0 } else t) := by
  split_ifs with hc
  · exact ⟨(hr t zi _).trans h.1,
      rd_wr_self_of (P := fun x => 0 ≤ x ∧ x ≤ 1) _ _ (by rw [lit1]; exact ⟨zero_le_one, le_refl _⟩) ⟨le_refl _, zero_le_one⟩⟩
  · exact ⟨h.1, h.2, not_lt.mp (lit1 ▸ hc)⟩

/-- The frozen top layer, clamped below, joins the other frozen layers.  The `Decidable` instance is an implicit argument, found by
unification with the goal: `apply` would search for an instance-implicit one while the condition is still unknown. -/
theorem u_join {c : Prop} {d : Decidable c} (ha : M0 rest s zi a) (hb : U rest s b) : U rest s (if c then a else b) := by
  split_ifs
  · exact ha.1
  · exact hb

end Hermes.Generated.Imp.mineral
