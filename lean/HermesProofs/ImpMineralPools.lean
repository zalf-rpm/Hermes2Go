/-
`mineral` (hermes/nitro.go → `HermesModel/Generated/Impmineral.lean`, regenerated on every run): per layer, what the decay takes
from an organic pool is what its mineralised-amount counter gains.  The two pools (NAOS / MINAOS / DTOTALN and NFOS / MINFOS /
DMINFOS) go through the same bookkeeping, stated once about a `PoolView`.  The loop body (about fifty states behind a dozen
sequential `if`s) is walked through the phases `A0` pool and counter untouched, `A1` the pool has lost `D = dec[z]`, `A2` the
counter has gained `D`; the frozen branch stays in `A0` (`AFin`: `A2` or `A0`).
-/
import HermesModel.Generated.Impmineral
import HermesProofs.WalkStates
import Mathlib.Tactic.Ring
import Mathlib.Tactic.SplitIfs

namespace Hermes.Generated.Imp.mineral
open Hermes.Imp
variable (m : MathFns ℚ)

/-- the part of the state in which the bookkeeping of one organic pool lives -/
structure PoolView where
  pool : List ℚ
  ctr : List ℚ
  dec : List ℚ

/-- slowly decomposable pool -/
abbrev viewA (t : St ℚ) : PoolView := ⟨t.g_NAOS, t.g_MINAOS, t.v_DTOTALN⟩

/-- quickly decomposable pool -/
abbrev viewF (t : St ℚ) : PoolView := ⟨t.g_NFOS, t.g_MINFOS, t.v_DMINFOS⟩

def A0 (v0 v : PoolView) : Prop := v.pool = v0.pool ∧ v.ctr = v0.ctr

def A1 (v0 : PoolView) (zi : Int) (v : PoolView) : Prop :=
  v.pool = wr v0.pool zi (rd v0.pool zi - rd v.dec zi) ∧ v.ctr = v0.ctr

def A2 (v0 : PoolView) (zi : Int) (v : PoolView) : Prop :=
  v.pool = wr v0.pool zi (rd v0.pool zi - rd v.dec zi) ∧ v.ctr = wr v0.ctr zi (rd v0.ctr zi + rd v.dec zi)

def AFin (v0 : PoolView) (zi : Int) (v : PoolView) : Prop := A2 v0 zi v ∨ A0 v0 v

section
variable {v0 v : PoolView} {zi : Int}

theorem a1_step (h : A0 v0 v) : A1 v0 zi { v with pool := wr v.pool zi (rd v.pool zi - rd v.dec zi) } :=
  ⟨congrArg (fun l => wr l zi (rd l zi - rd v.dec zi)) h.1, h.2⟩

theorem a2_step (h : A1 v0 zi v) : A2 v0 zi { v with ctr := wr v.ctr zi (rd v.ctr zi + rd v.dec zi) } :=
  ⟨h.1, congrArg (fun l => wr l zi (rd l zi + rd v.dec zi)) h.2⟩

theorem afin_ite {σ : Type} (view : σ → PoolView) {a b : σ} {c : Prop} {d : Decidable c} (ha : A2 v0 zi (view a)) (hb : A0 v0 (view b)) :
    AFin v0 zi (view (if c then a else b)) := by
  split_ifs
  · exact Or.inl ha
  · exact Or.inr hb

end

/-- The walk needs a view that unfolds to fields of the state (the frame rule compares them), so it is run with `view` let-bound
to the concrete view, once per pool, from one text. -/
theorem loop1_moves (view : St ℚ → PoolView) (hv : view = viewA ∨ view = viewF) (z : Int) (s : St ℚ) :
    AFin (view s) (z - 1) (view (loop1 m z s)) := by
  rcases hv with rfl | rfl
  on_goal 1 => let view := viewA
  on_goal 2 => let view := viewF
  all_goals
    unfold loop1
    extract_lets zi
    have h0 : A0 (view s) (view s) := ⟨rfl, rfl⟩
    walk_states [
      fun t => A0 (view s) (view t) by assumption,
      fun t => A1 (view s) zi (view t) by apply a1_step (v := view _); assumption,
      fun t => A2 (view s) zi (view t) by apply a2_step (v := view _); assumption,
      fun t => AFin (view s) zi (view t) by apply afin_ite view <;> assumption]
    assumption

/-- what the loop reads besides the pools stays what it was (the loop bound in particular) -/
theorem loop1_num (z : Int) (s : St ℚ) : (loop1 m z s).v_num = s.v_num := by
  unfold loop1
  extract_lets zi
  have h0 : s.v_num = s.v_num := rfl
  walk_states [fun t : St ℚ => t.v_num = s.v_num by assumption]
  assumption

theorem loop1_td (z : Int) (s : St ℚ) : (loop1 m z s).g_TD = s.g_TD := by
  unfold loop1
  extract_lets zi
  have h0 : s.g_TD = s.g_TD := rfl
  walk_states [fun t : St ℚ => t.g_TD = s.g_TD by assumption]
  assumption

/-- Induction over the layers `z = 1 + k`.  The step may use that the temperature profile, which every iteration reads and none
writes, is the one the loop started with. -/
theorem loop_ind (P : St ℚ → Prop) (s : St ℚ) (num : Int) (h0 : P s)
    (hstep : ∀ k : Nat, k < num.toNat → ∀ t, t.g_TD = s.g_TD → P t → P (loop1 m (1 + k) t)) :
    P (loopUp noBrk 1 (num + 1) (loop1 m) s) :=
  (loopUp_noBrk_ind (loop1 m) (fun _ t => t.g_TD = s.g_TD ∧ P t) 1 (num + 1) s ⟨rfl, h0⟩
    (fun k hk t ht => ⟨(loop1_td m _ t).trans ht.1, hstep k (by omega) t ht.1 ht.2⟩)).2

/-- over the iterations: pool + counter of every layer is what it was at the start; the arrays keep their lengths -/
structure Cons (v0 v : PoolView) : Prop where
  pool : v.pool.length = v0.pool.length
  ctr : v.ctr.length = v0.ctr.length
  sum : ∀ j : Int, rd v.pool j + rd v.ctr j = rd v0.pool j + rd v0.ctr j

theorem pair_step (l1 l2 : List ℚ) (zi : Int) (d : ℚ) (h0 : 0 ≤ zi) (h1 : zi.toNat < l1.length) (h2 : zi.toNat < l2.length)
    (j : Int) : rd (wr l1 zi (rd l1 zi - d)) j + rd (wr l2 zi (rd l2 zi + d)) j = rd l1 j + rd l2 j := by
  rw [rd_wr _ _ _ _ h0 h1, rd_wr _ _ _ _ h0 h2]
  split_ifs with h
  · subst h; ring
  · rfl

theorem cons_step {v0 v v' : PoolView} {zi : Int} (h : Cons v0 v) (hp : AFin v zi v') (h0 : 0 ≤ zi)
    (hb : zi.toNat < v0.pool.length ∧ zi.toNat < v0.ctr.length) : Cons v0 v' := by
  obtain ⟨l1, l2, pc⟩ := h
  rcases hp with ⟨e1, e2⟩ | ⟨e1, e2⟩
  · refine ⟨by rw [e1, length_wr]; exact l1, by rw [e2, length_wr]; exact l2, fun j => ?_⟩
    rw [e1, e2]
    exact (pair_step _ _ _ _ h0 (by rw [l1]; exact hb.1) (by rw [l2]; exact hb.2) j).trans (pc j)
  · exact ⟨e1 ▸ l1, e2 ▸ l2, fun j => by rw [e1, e2]; exact pc j⟩

theorem loop_cons (view : St ℚ → PoolView) (hv : view = viewA ∨ view = viewF) (s : St ℚ) (num : Int)
    (hp : num.toNat ≤ (view s).pool.length) (hc : num.toNat ≤ (view s).ctr.length) :
    Cons (view s) (view (loopUp noBrk 1 (num + 1) (loop1 m) s)) :=
  loop_ind m (fun t => Cons (view s) (view t)) s num ⟨rfl, rfl, fun _ => rfl⟩
    (fun k hk t _ ht => cons_step ht (loop1_moves m view hv (1 + k) t) (by omega) ⟨by omega, by omega⟩)

/-- the layers `mineral` works on (IZM / DZ of them) lie inside the four pool arrays: the Go code does not panic -/
def InRange (s : St ℚ) : Prop :=
  (Int.tdiv s.g_IZM s.g_DZ_Index).toNat ≤ s.g_NAOS.length ∧ (Int.tdiv s.g_IZM s.g_DZ_Index).toNat ≤ s.g_MINAOS.length ∧
  (Int.tdiv s.g_IZM s.g_DZ_Index).toNat ≤ s.g_NFOS.length ∧ (Int.tdiv s.g_IZM s.g_DZ_Index).toNat ≤ s.g_MINFOS.length

/-- `mineral` up to its layer loop: the scratch arrays zeroed -/
def init (s : St ℚ) : St ℚ :=
  { s with v_DTOTALN := List.replicate 4 0.0, v_DMINFOS := List.replicate 4 0.0, v_MIRED := List.replicate 4 0.0,
           v_num := Int.tdiv s.g_IZM s.g_DZ_Index }

theorem run_eq (s : St ℚ) : run m s = loopUp noBrk 1 (Int.tdiv s.g_IZM s.g_DZ_Index + 1) (loop1 m) (init s) := rfl

theorem run_pool (s : St ℚ) (h : InRange s) : Cons (viewA s) (viewA (run m s)) ∧ Cons (viewF s) (viewF (run m s)) := by
  rw [run_eq]
  have a := loop_cons m viewA (Or.inl rfl) (init s) _ h.1 h.2.1
  have f := loop_cons m viewF (Or.inr rfl) (init s) _ h.2.2.1 h.2.2.2
  -- `init` changes only the scratch arrays, of which `Cons` does not speak
  exact ⟨⟨a.pool, a.ctr, a.sum⟩, ⟨f.pool, f.ctr, f.sum⟩⟩

end Hermes.Generated.Imp.mineral
