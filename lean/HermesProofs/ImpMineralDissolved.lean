/-
`mineral` (hermes/nitro.go → `HermesModel/Generated/Impmineral.lean`): on warm layers the dissolved sum UMS moves towards, and never
beyond, the applied sum DSUMM, and likewise the nitrified ammonium NH4UMS and the ammonium applied NH4Sum; both pairs go through the
same bookkeeping, stated once about a `SumView`.  The walk goes through `U`, `M0`, `M1` (HermesProofs/ImpMineralMoisture.lean), `D` the
amount of the layer lies in [0, remainder], `SF` booked: old sum ≤ new sum ≤ applied.  The frozen branch (`else` of `0 < TEMPBO`) has no
upper clamp of the moisture factor; the hypothesis excludes it (the hand model's `C07_dissolved_le_applied` covers it under `FrozenOrd`).
-/
import HermesProofs.ImpMineralMoisture
import HermesProofs.ImpMineralPools
import HermesProofs.PlantArith

namespace Hermes.Generated.Imp.mineral
open Hermes.Imp

/-- the layers `mineral` works on are inside the scratch arrays, and every one of them is warm (mean of the two node
temperatures above 0 °C: the branch of `mineral` with both clamps of the moisture factor) -/
def WarmInRange (s : St ℚ) : Prop :=
  (Int.tdiv s.g_IZM s.g_DZ_Index).toNat ≤ 4 ∧ (Int.tdiv s.g_IZM s.g_DZ_Index).toNat ≤ s.l_DUMS.length ∧
  (Int.tdiv s.g_IZM s.g_DZ_Index).toNat ≤ s.l_DNH4UMS.length ∧
  ∀ k : Nat, k < (Int.tdiv s.g_IZM s.g_DZ_Index).toNat → 0.0 < (rd s.g_TD (1 + (k : Int)) + rd s.g_TD (1 + (k : Int) - 1)) / 2.0

/-- the part of the state in which the bookkeeping of one converted / applied pair of sums lives; `layer` is the scratch array of the
amounts per layer -/
structure SumView where
  sum : ℚ
  applied : ℚ
  layer : List ℚ

/-- the amount of the layer has been written and lies between 0 and the unconverted remainder; the sums are untouched -/
def D (v0 : SumView) (zi : Int) (v : SumView) : Prop :=
  v.sum = v0.sum ∧ v.applied = v0.applied ∧ 0 ≤ rd v.layer zi ∧ rd v.layer zi ≤ v0.applied - v0.sum

/-- the amount of the layer has been booked: old sum ≤ new sum ≤ applied; also the invariant over the iterations (`SF_trans`) -/
structure SF (v0 v : SumView) : Prop where
  applied : v.applied = v0.applied
  ge : v0.sum ≤ v.sum
  le : v.sum ≤ v0.applied

section
variable (view : St ℚ → SumView) {v0 v : SumView} {s t : St ℚ} {zi : Int}

theorem d_write (h : M1 view s zi t) (hle : (view s).sum ≤ (view s).applied) (x : ℚ)
    (hx : 0 ≤ x ∧ x ≤ (view s).applied - (view s).sum) : D (view s) zi { view t with layer := wr (view t).layer zi x } := by
  rw [show view t = view s from h.1]
  exact ⟨rfl, rfl, rd_wr_self_of (P := fun d => 0 ≤ d ∧ d ≤ (view s).applied - (view s).sum) _ _ hx
    ⟨le_refl _, sub_nonneg.mpr hle⟩⟩

/-- top layer: `0.4 · MIRED` of the remainder, with `MIRED ∈ [0,1]` -/
theorem d_step (h : M1 view s zi t) (hle : (view s).sum ≤ (view s).applied) :
    D (view s) zi { view t with layer := wr (view t).layer zi (0.4 * rd t.v_MIRED zi * ((view t).applied - (view t).sum)) } := by
  refine d_write view h hle _ ?_
  obtain ⟨hv, m0, m1⟩ := h
  rw [show view t = view s from hv]
  exact frac_between (mul_nonneg (by norm_num) m0) (mul_le_one₀ (by norm_num) m0 m1) (sub_nonneg.mpr hle)

/-- the other layers: nothing -/
theorem d_zero (h : M1 view s zi t) (hle : (view s).sum ≤ (view s).applied) :
    D (view s) zi { view t with layer := wr (view t).layer zi 0.0 } :=
  d_write view h hle _ (by rw [lit0]; exact ⟨le_refl _, sub_nonneg.mpr hle⟩)

theorem f_step (h : D v0 zi v) : SF v0 { v with sum := v.sum + rd v.layer zi } := by
  obtain ⟨e1, e2, d0, d1⟩ := h
  refine ⟨e2, ?_, ?_⟩
  · show v0.sum ≤ v.sum + rd v.layer zi
    rw [e1]; exact le_add_of_nonneg_right d0
  · show v.sum + rd v.layer zi ≤ v0.applied
    rw [e1]; exact le_sub_iff_add_le'.mp d1

theorem SF_trans {u : SumView} (h1 : SF v0 v) (h2 : SF v u) : SF v0 u :=
  ⟨h2.applied.trans h1.applied, h1.ge.trans h2.ge, h1.applied ▸ h2.le⟩

end

/-- dissolved fertiliser -/
abbrev viewU (t : St ℚ) : SumView := ⟨t.g_UMS, t.g_DSUMM, t.l_DUMS⟩

/-- nitrified ammonium -/
abbrev viewN (t : St ℚ) : SumView := ⟨t.g_NH4UMS, t.g_NH4Sum, t.l_DNH4UMS⟩

/-- one iteration on a warm layer.  One text, run per pair of sums with `view` let-bound to the concrete view (see `loop1_moves`). -/
theorem loop1_sum (m : MathFns ℚ) (view : St ℚ → SumView) (hv : view = viewU ∨ view = viewN) (z : Int) (s : St ℚ)
    (hle : (view s).sum ≤ (view s).applied) (hw : 0.0 < (rd s.g_TD z + rd s.g_TD (z - 1)) / 2.0) :
    SF (view s) (view (loop1 m z s)) := by
  rcases hv with rfl | rfl
  on_goal 1 => let view := viewU
  on_goal 2 => let view := viewN
  all_goals
    unfold loop1
    extract_lets zi tempbo
    have hmir : IgnoresMired view := fun _ _ _ => rfl
    have hw' : 0.0 < tempbo := hw
    have hu : U view s s := rfl
    walk_states [
      M0 view s zi by apply m0_clamp hmir; exact hprev,
      U view s by apply hu,
      M1 view s zi by apply m1_clamp hmir; exact hprev,
      fun t => D (view s) zi (view t) by
        first
        | (apply d_step view ?_ hle; exact hprev)
        | (apply d_zero view ?_ hle; exact hprev),
      fun t => SF (view s) (view t) by apply f_step (v := view _); exact hprev]
    assumption

theorem loop_dissolved (m : MathFns ℚ) (view : St ℚ → SumView) (hv : view = viewU ∨ view = viewN) (s : St ℚ) (num : Int)
    (hw : ∀ k : Nat, k < num.toNat → 0.0 < (rd s.g_TD (1 + (k : Int)) + rd s.g_TD (1 + (k : Int) - 1)) / 2.0)
    (hle : (view s).sum ≤ (view s).applied) : SF (view s) (view (loopUp noBrk 1 (num + 1) (loop1 m) s)) :=
  loop_ind m (fun t => SF (view s) (view t)) s num ⟨rfl, le_refl _, hle⟩
    (fun k hk t td ht =>
      SF_trans ht (loop1_sum m view hv (1 + k) t (by rw [ht.applied]; exact ht.le) (by rw [td]; exact hw k hk)))

namespace Ums

/-- `SF (viewU s) (viewU t)` written out; `Nh4.F` likewise for `viewN` -/
def F (s t : St ℚ) : Prop :=
  t.g_DSUMM = s.g_DSUMM ∧ s.g_UMS ≤ t.g_UMS ∧ t.g_UMS ≤ s.g_DSUMM ∧ t.v_MIRED.length = s.v_MIRED.length ∧ t.l_DUMS.length = s.l_DUMS.length ∧ t.g_TD = s.g_TD

section
variable {s t a b : St ℚ} {zi : Int}
theorem f_warm {c : Prop} [Decidable c] (hc : c) (ha : F s a) : F s (if c then a else b) := ite_pos_pred (F s) hc ha
end

end Ums

namespace Nh4

def F (s t : St ℚ) : Prop :=
  t.g_NH4Sum = s.g_NH4Sum ∧ s.g_NH4UMS ≤ t.g_NH4UMS ∧ t.g_NH4UMS ≤ s.g_NH4Sum ∧ t.v_MIRED.length = s.v_MIRED.length ∧ t.l_DNH4UMS.length = s.l_DNH4UMS.length ∧ t.g_TD = s.g_TD

section
variable {s t a b : St ℚ} {zi : Int}
theorem f_warm {c : Prop} [Decidable c] (hc : c) (ha : F s a) : F s (if c then a else b) := ite_pos_pred (F s) hc ha
end

end Nh4

end Hermes.Generated.Imp.mineral
