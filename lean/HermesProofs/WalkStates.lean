/-
`walk_states [P₁ by tac₁, …, Pₙ by tacₙ]`: forward reasoning over a translated kernel.  After `unfold <kernel>; extract_lets`
every intermediate state of the Go function is a let-bound local (`x : St ℚ := { t with … }` or `:= if c then a else b`);
substituting them into one term is exponential in the number of sequential `if`s.  The tactic visits, in program order, the locals
whose type is an application of a constant named `St` (the state structure of every generated kernel) and adds one fact `Pᵢ x` per
state `x`:

* frame: `x := { t with … }`, `Pⱼ t` is known and the statement does not touch what `Pⱼ` speaks about: `Pⱼ x` by the same
  proof; no other predicate is looked at for such a state;
* otherwise the first `i` for which one of these works:
  - join: `x := if c then a else b` with `Pᵢ a` and `Pᵢ b` known; `Pᵢ a` (`Pᵢ b`) alone is enough if a hypothesis of the
    context is syntactically `c` (`¬ c`);
  - `tacᵢ` proves `Pᵢ x`: the step and join lemmas that enter the phase `Pᵢ`.  The fact known about the predecessor state (for
    an `if`: about its else-branch, failing that its then-branch) is in the context of `tacᵢ` as `hprev`.

Use: the start state is not let-bound, so only the `tacᵢ` apply to it: state its fact before the walk
(`have h0 : P s := …`) and let the rule of `P` find it (`assumption`, `apply h0`).  The tactic reports nothing.  A state for which
nothing works gets no fact, nor do the states behind it whose rules need `hprev`; the walk is followed by `assumption` for the fact
about the last state, and a gap surfaces there, as that `assumption` failing.

Order of the list: a clamp `if c then { t with … } else t` whose branches both have `Pⱼ` gets `Pⱼ` by the join, so the predicate the
clamp establishes goes before `Pⱼ`.  Otherwise the phases most states are in go first: a state runs `tacⱼ` for every predicate
before the one it gets.

Fail fast: a `tacᵢ` runs on many states it proves nothing about.  Write `apply step ?_ a b; exact hprev`, not
`exact step hprev a b`: `apply` gives up when the conclusion does not match the goal; `exact` elaborates `hprev` against the
premise first and, on a mismatch, searches a coercion between the two propositions.

Transparency: everything, the `tacᵢ` included, runs at *reducible* transparency.  The phase predicates are to be `def`s: two facts
with different predicates, or two states compared field by field, then fail to unify at once (at default transparency a numeral
against `a - b` sends `whnf` into `Rat.sub`).  Only the frame rule unfolds them, explicitly, so that a fact survives a write to a
field its body does not mention; a `structure` is not unfolded and survives only statements that leave all its arguments alone.
What a predicate is applied to (a view of the state such as `viewA`, `kept`) is to be an `abbrev` that unfolds to fields of the
state, which the frame rule compares.  What the tactic adds are ordinary proof terms checked by the kernel: it searches, nothing
in it is trusted.
-/
import Lean
import HermesProofs.Ite

namespace Hermes

theorem ite_pos_pred {σ : Type} (P : σ → Prop) {c : Prop} [Decidable c] {a b : σ} (hc : c) (ha : P a) :
    P (if c then a else b) :=
  if_pos hc ▸ ha

theorem ite_neg_pred {σ : Type} (P : σ → Prop) {c : Prop} [Decidable c] {a b : σ} (hc : ¬ c) (hb : P b) :
    P (if c then a else b) :=
  if_neg hc ▸ hb

end Hermes

open Lean Meta in
/-- unfolds the user's predicates (the `Prop`-valued definitions of `Hermes…` modules) inside `e`, nothing else -/
private partial def expandPreds (e : Expr) (fuel : Nat := 8) : MetaM Expr := do
  let env ← getEnv
  let isPred (n : Name) : Bool :=
    match env.find? n with
    | some (.defnInfo d) =>
      d.type.getForallBody.isProp &&
        (match env.getModuleIdxFor? n with
         | none => true
         | some idx => (env.header.moduleNames[idx.toNat]!).getRoot.toString.startsWith "Hermes")
    | _ => false
  let e' ← deltaExpand e isPred
  let e' ← Core.betaReduce e'
  if fuel == 0 || e' == e then pure e' else expandPreds e' (fuel - 1)

open Lean in
private def isStTy (ty : Expr) : Bool :=
  ty.getAppFn.isConst && ty.getAppFn.constName!.getString! == "St"

open Lean Elab Tactic Meta in
elab "walk_states " "[" rules:(term " by " tacticSeq),* "]" : tactic => do
  let decls ← withMainContext do pure ((← getLCtx).decls.toList.filterMap id)
  let rules := rules.getElems
  let predEs ← withMainContext do rules.mapM (fun r => elabTerm r.raw[0] none)
  -- state ↦ (index of the predicate, proof)
  let mut facts : Array (FVarId × Nat × Expr) := #[]
  for d in decls do
    unless isStTy (← instantiateMVars d.type) do continue
    let x := d.fvarId
    -- an initial state is not let-bound: its value is `x` itself
    let v ← if d.isLet then instantiateMVars d.value else pure (mkFVar x)
    let found : Option (Nat × Expr × Expr) ← withMainContext do
      let goalOf (i : Nat) : Expr := (mkApp predEs[i]! (mkFVar x)).headBeta
      let look (y : Expr) : Option (Nat × Expr) :=
        if y.isFVar then (facts.find? (fun f => f.1 == y.fvarId!)).map (fun f => f.2) else none
      let prevFact : Option (Nat × Expr) :=
        if v.isAppOfArity ``ite 5 then
          (look (v.getArg! 4)).orElse fun _ => look (v.getArg! 3)
        else if d.isLet then
          (collectFVars {} v).fvarIds.findSome? fun y => look (mkFVar y)
        else none
      -- frame
      unless v.isAppOfArity ``ite 5 do
        if let some (j, h) := prevFact then
          let s ← saveState
          if ← withReducible (isDefEq (← expandPreds (← inferType h)) (← expandPreds (goalOf j))) then
            return some (j, goalOf j, h)
          s.restore
      for i in [0:predEs.size] do
        -- join; first the branch decided by a hypothesis of the context
        if v.isAppOfArity ``ite 5 then
          let cond := v.getArg! 1
          for hd in (← getLCtx) do
            if hd.isLet || hd.isImplementationDetail then continue
            let hty ← instantiateMVars hd.type
            for (c, br, lem) in [(cond, 3, ``Hermes.ite_pos_pred), (mkNot cond, 4, ``Hermes.ite_neg_pred)] do
              if hty == c then
                if let some (ix, hx) := look (v.getArg! br) then
                  if ix == i then
                    let pr ← mkAppOptM lem #[none, some predEs[i]!, some cond, some (v.getArg! 2), some (v.getArg! 3), some (v.getArg! 4), some hd.toExpr, some hx]
                    return some (i, goalOf i, pr)
          match look (v.getArg! 3), look (v.getArg! 4) with
          | some (ia, ha), some (ib, hb) =>
            if ia == i && ib == i then
              try
                let pr ← mkAppOptM ``Hermes.ite_of_both #[none, some predEs[i]!, some (v.getArg! 1), some (v.getArg! 2), some (v.getArg! 3), some (v.getArg! 4), some ha, some hb]
                if ← withReducible (isDefEq (← inferType pr) (goalOf i)) then
                  return some (i, goalOf i, pr)
              catch _ => pure ()
          | _, _ => pure ()
        -- `tacᵢ` with `hprev`
        let mv ← mkFreshExprSyntheticOpaqueMVar (goalOf i)
        let s ← saveState
        try
          let g0 ← match prevFact with
            | some (_, h) => do
              let g1 ← mv.mvarId!.assert (Name.mkSimple "hprev") (← inferType h) h
              let (_, g2) ← g1.intro1P
              pure g2
            | none => pure mv.mvarId!
          let rest ← Tactic.run g0 (Tactic.withoutRecover (withReducible (evalTactic rules[i]!.raw[2])))
          unless rest.isEmpty do throwError "left goals"
          return some (i, goalOf i, ← instantiateMVars mv)
        catch _ =>
          s.restore
      return none
    match found with
    | none => pure ()
    | some (i, ty, pr) =>
      let g ← getMainGoal
      let g' ← g.assert (← mkFreshUserName `hst) ty pr
      let (h, g'') ← g'.intro1P
      replaceMainGoal [g'']
      facts := facts.push (x, i, mkFVar h)
