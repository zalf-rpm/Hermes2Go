/-
`vern` (hermes/crop.go → `HermesModel/Generated/Impvern.lean`, one definition per top-level statement) computes the hand-written model
`Hermes.Crop.vern` (HermesModel/Crop.lean) that the C09 theorems about the vernalisation factor speak about.
-/
import HermesModel.Generated.Impvern
import HermesModel.Crop
import HermesProofs.ImpLemmas

namespace Hermes.Generated.Imp.vern
open Hermes.Imp

/-- statement 2, the temperature cascade (crop.go:1016): the effectiveness of the day is `Crop.vernEff` of its mean temperature -/
theorem top2_eq (m : MathFns ℚ) (s : St ℚ) :
    top2 m s = { s with v_veff := Hermes.Crop.vernEff (rd s.g_TEMP s.g_TAG_Index) } := by
  unfold top2 Hermes.Crop.vernEff
  -- both sides are the same cascade once the assignment is pushed into its branches; splitting it into cases is slow to check
  simp only [apply_ite (fun v : ℚ => ({ s with v_veff := v } : St ℚ)), lit0, lit1]

/-- statement 5 (crop.go:1033): the vernalisation factor, clamped to [0,1] -/
theorem top5_eq (m : MathFns ℚ) (s : St ℚ) :
    top5 m s = { s with l_FV := if 1 ≤ s.v_verschwell then
      (let fv := (s.g_VERNTAGE - s.v_verschwell) / (rd s.g_VSCHWELL s.g_INTWICK_Index - s.v_verschwell); if fv < 0 then 0 else if 1 < fv then 1 else fv) else 1 } := by
  unfold top5
  simp only [apply_ite (fun v : ℚ => ({ s with l_FV := v } : St ℚ)), lit0, lit1]

/-- Go's `math.Min` on the values the kernel passes (the only fact about package `math` the theorems need) -/
def MinOK (m : MathFns ℚ) : Prop := ∀ a b : ℚ, m.min a b = Hermes.Crop.fmin a b

theorem vern_refines (m : MathFns ℚ) (s : St ℚ) (hmin : ∀ a b : ℚ, m.min a b = Hermes.Crop.fmin a b) :
    (run m s).g_VERNTAGE = (Hermes.Crop.vern s.g_VERNTAGE (rd s.g_VSCHWELL s.g_INTWICK_Index) (rd s.g_TEMP s.g_TAG_Index) s.g_DT_Num).1 ∧
    (run m s).l_FV = (Hermes.Crop.vern s.g_VERNTAGE (rd s.g_VSCHWELL s.g_INTWICK_Index) (rd s.g_TEMP s.g_TAG_Index) s.g_DT_Num).2 := by
  unfold run
  simp only [top5_eq, top2_eq]
  unfold top4 top3 top1 Hermes.Crop.vern
  -- the projections go into the `if` of `Crop.vern`; for the accumulated days its two branches coincide
  simp only [hmin, lit1, apply_ite Prod.fst, apply_ite Prod.snd, ite_self, and_self]

end Hermes.Generated.Imp.vern
