/-
Refinement of the regenerated translation of `hermes.Water` (HermesModel/Generated/ImpWater.lean) to the hand-written model
`Water.step` — the cascades: infiltration (water.go:845-869), overflow (water.go:908-915), the search of the capillary-rise
layer (water.go:924-933) and evaporation (water.go:872-900).  A cascade carries a value from one iteration to the next (the water
still to be placed, the surplus, the deficit) and two of them leave by `break`.  They are characterised by induction over the
remaining iterations: `loopUpN` peels the first iteration exactly like the model's recursion over the list of remaining layers;
what the loop leaves is stated as `Patch`es of the arrays; below a `break` the fill loops of ImpWaterLoops.lean did the rest.
-/
import HermesProofs.ImpWaterLoops
import HermesProofs.Water
import Mathlib.Tactic.SplitIfs

namespace Hermes.ImpWater
open Hermes.Imp Hermes.Water
open Hermes.ImpSoiltemp (vw)
open Hermes.Generated.Imp.Water

/-- (WATER0, W) of the layers i, i+1, …, N−1 (0-based) -/
def infRest (t : St ℚ) (i N : Nat) : List (ℚ × ℚ) :=
  (List.range (N - i)).map (fun (d : Nat) => (rd t.v_WATER_0 ((i + d : Nat) : Int), rd t.g_W ((i + d : Nat) : Int)))

theorem infRest_length (t : St ℚ) (i N : Nat) : (infRest t i N).length = N - i := by simp [infRest]

theorem infRest_nil (t : St ℚ) (N : Nat) : infRest t N N = [] := by simp [infRest]

theorem infRest_cons (t : St ℚ) (i N : Nat) (h : i < N) :
    infRest t i N = (rd t.v_WATER_0 (i : Int), rd t.g_W (i : Int)) :: infRest t (i + 1) N := by
  unfold infRest
  rw [show N - i = N - (i + 1) + 1 from by omega]
  exact map_range_shift (fun k => (rd t.v_WATER_0 (k : Int), rd t.g_W (k : Int))) i _

theorem infRest_fst (t : St ℚ) (i N : Nat) : (infRest t i N).map (·.1) = seg t.v_WATER_0 i (N - i) := by
  unfold infRest seg
  rw [List.map_map]
  rfl

/-- One iteration of the infiltration loop (water.go:846-868), `b` the water arriving in layer `i` (0-based) plus what it holds,
`a'` the surplus over field capacity: below zero the wetting front stops (the rest of the profile is copied, `break`); otherwise
the layer is filled and the surplus moves on, the drain layer keeping its share. -/
theorem loop3_body (m : MathFns ℚ) (t : St ℚ) (i N : Nat) (hN : t.g_N = (N : Int)) (lq : i + 1 < t.g_Q1.length) (b a' : ℚ)
    (hb : b = t.v_a + rd t.v_WATER_0 (i : Int)) (ha : a' = b - rd t.g_W (i : Int) * t.g_DZ_Num) :
    (a' < 0 → loop3 m ((i + 1 : Nat) : Int) t
      = { t with v_a := a',
                 v_WATER_1 := fill (wr t.v_WATER_1 (i : Int) b) ((i + 1 : Nat) : Int) (fun j => rd t.v_WATER_0 j) (N - (i + 1)),
                 g_Q1 := fill (wr t.g_Q1 ((i + 1 : Nat) : Int) 0) ((i + 1 + 1 : Nat) : Int) (fun _ => 0) (N - (i + 1)),
                 brk := true }) ∧
    (¬ a' < 0 → loop3 m ((i + 1 : Nat) : Int) t
      = { t with v_a := if i + 1 = t.g_DRAIDEP.toNat then (1 - t.g_DRAIFAK) * a' else a',
                 v_WATER_1 := wr t.v_WATER_1 (i : Int) (rd t.g_W (i : Int) * t.g_DZ_Num),
                 g_Q1 := wr t.g_Q1 ((i + 1 : Nat) : Int) (if i + 1 = t.g_DRAIDEP.toNat then (1 - t.g_DRAIFAK) * a' else a'),
                 g_QDRAIN := if i + 1 = t.g_DRAIDEP.toNat then t.g_DRAIFAK * a' else t.g_QDRAIN }) := by
  refine ⟨fun hneg => ?_, fun hneg => ?_⟩
  · have hn : (t.g_N + 1 - ((i + 1 + 1 : Nat) : Int)).toNat = N - (i + 1) := by rw [hN]; omega
    simp only [loop3, natCast_succ_sub_one, lit0, ← hb, ← ha, hneg, ↓reduceIte, ← Int.natCast_add_one, loop4_eq m _ _ _ _ _ hn]
  · have hdr : (((i + 1 : Nat) : Int) = t.g_DRAIDEP) ↔ (i + 1 = t.g_DRAIDEP.toNat) := natCast_eq_iff_toNat t.g_DRAIDEP (i + 1) (by omega)
    by_cases hdc : i + 1 = t.g_DRAIDEP.toNat
    · rw [if_pos hdc, if_pos hdc]
      simp only [loop3, natCast_succ_sub_one, lit0, lit1, ← hb, ← ha, hneg, ↓reduceIte]
      rw [if_pos (hdr.mpr hdc)]
      simp only []
      rw [rd_wr_same _ _ _ (by omega) (by simpa using lq), wr_wr_same]
    · rw [if_neg hdc, if_neg hdc]
      simp only [loop3, natCast_succ_sub_one, lit0, lit1, ← hb, ← ha, hneg, ↓reduceIte]
      rw [if_neg (fun h => hdc (hdr.mp h)), wr_wr_same]

/-- The infiltration loop from layer `i` (0-based) on: WATER1 from cell `i` and Q1 from cell `i + 1` are the model's lists, and
QDRAIN grows by the model's drain outflow.  The drain layer overwrites QDRAIN (water.go:861), so above it (`i + 1 ≤ DRAIDEP`)
QDRAIN must hold 0 at the start. -/
theorem infil_patch (m : MathFns ℚ) (N : Nat) : ∀ (n i : Nat) (t : St ℚ), i + n = N → t.g_N = (N : Int) → t.brk = false →
    N ≤ t.v_WATER_1.length → N + 1 ≤ t.g_Q1.length → ((i + 1 ≤ t.g_DRAIDEP.toNat) → t.g_QDRAIN = 0) →
    ∃ A Q a' b qd, loopUpN (fun s => s.brk) (loop3 m) n ((i + 1 : Nat) : Int) t
        = { t with v_WATER_1 := A, g_Q1 := Q, v_a := a', brk := b, g_QDRAIN := qd } ∧
      Patch t.v_WATER_1 A i (infil t.g_DZ_Num t.g_DRAIDEP.toNat t.g_DRAIFAK t.v_a (i + 1) (infRest t i N)).1 ∧
      Patch t.g_Q1 Q (i + 1) (infil t.g_DZ_Num t.g_DRAIDEP.toNat t.g_DRAIFAK t.v_a (i + 1) (infRest t i N)).2.1 ∧
      qd = t.g_QDRAIN + (infil t.g_DZ_Num t.g_DRAIDEP.toNat t.g_DRAIFAK t.v_a (i + 1) (infRest t i N)).2.2 := by
  intro n
  induction n with
  | zero =>
    intro i t hin hN hb lW1 lQ hd
    obtain rfl : i = N := by omega
    rw [infRest_nil]
    simp only [infil]
    exact ⟨t.v_WATER_1, t.g_Q1, t.v_a, t.brk, t.g_QDRAIN, rfl, Patch.nil _ _, Patch.nil _ _, (add_zero _).symm⟩
  | succ n ih =>
    intro i t hin hN hb lW1 lQ hd
    have hiN : i < N := by omega
    have li : i < t.v_WATER_1.length := by omega
    have lq : i + 1 < t.g_Q1.length := by omega
    rw [infRest_cons t i N hiN]
    set b := t.v_a + rd t.v_WATER_0 (i : Int) with hb_def
    set a' := b - rd t.g_W (i : Int) * t.g_DZ_Num with ha_def
    obtain ⟨hbrk, hcont⟩ := loop3_body m t i N hN lq b a' hb_def ha_def
    by_cases hneg : a' < 0
    · -- the wetting front stops in this layer: cell `i` got `b`, cell `i + 1` of Q1 got 0, the fill loop did the cells after them
      have hbody := hbrk hneg
      rw [loopUpN_succ_brk (fun s : St ℚ => s.brk) (loop3 m) n ((i + 1 : Nat) : Int) t (by rw [hbody]), hbody]
      simp only [infil, ← hb_def, ← ha_def, hneg, ↓reduceIte]
      rw [infRest_fst, map_zero_eq, infRest_length]
      exact ⟨_, _, a', true, t.g_QDRAIN, rfl,
        Patch.comp (Patch.wr b li) (Patch.fill _ (i + 1) _ _ (by rw [length_wr]; omega)) (Nat.zero_le _),
        Patch.comp (Patch.wr 0 lq) (Patch.fill _ (i + 1 + 1) _ _ (by rw [length_wr]; omega)) (Nat.zero_le _), (add_zero _).symm⟩
    · -- the layer is filled to field capacity, the surplus moves on (the drain layer keeps its share)
      have hbody := hcont hneg
      set dd := t.g_DRAIDEP.toNat with hdd
      set aOut := (if i + 1 = dd then (1 - t.g_DRAIFAK) * a' else a') with haOut
      set qdNew := (if i + 1 = dd then t.g_DRAIFAK * a' else t.g_QDRAIN) with hqdNew
      have key := ih (i + 1) (loop3 m ((i + 1 : Nat) : Int) t) (by omega)
      rw [loopUpN_succ_cont (fun s : St ℚ => s.brk) (loop3 m) n ((i + 1 : Nat) : Int) t (by rw [hbody]; exact hb)]
      rw [hbody] at key ⊢
      obtain ⟨A, Q, af, bf, qd, e, p1, p2, pq⟩ := key hN hb (by rw [length_wr]; exact lW1) (by rw [length_wr]; exact lQ)
        (by
          intro (hle : i + 1 + 1 ≤ dd)
          show qdNew = 0
          rw [hqdNew, if_neg (by omega)]
          exact hd (by omega))
      rw [← Int.natCast_add_one, e]
      simp only [infil, ← hb_def, ← ha_def, hneg, ↓reduceIte]
      refine ⟨A, Q, af, bf, qd, rfl, Patch.comp (Patch.wr _ li) p1 (Nat.zero_le _), Patch.comp (Patch.wr _ lq) p2 (Nat.zero_le _), ?_⟩
      rw [pq]
      show qdNew + _ = _
      rw [hqdNew]
      by_cases hdc : i + 1 = dd
      · -- the drain layer: QDRAIN held 0, and the model reports no outflow from the layers below
        rw [if_pos hdc, if_pos hdc, if_pos hdc, hd (by omega), zero_add,
          infil_qdrain_zero _ _ _ _ _ _ (show dd < i + 1 + 1 by omega), add_zero]
      · rw [if_neg hdc, if_neg hdc]
        rfl

theorem infil_loop (m : MathFns ℚ) (N : Nat) : ∀ (n i : Nat) (t : St ℚ), i + n = N → t.g_N = (N : Int) → t.brk = false →
    N ≤ t.v_WATER_1.length → N + 1 ≤ t.g_Q1.length → ((i + 1 ≤ t.g_DRAIDEP.toNat) → t.g_QDRAIN = 0) →
    ∃ A Q a' b qd, loopUpN (fun s => s.brk) (loop3 m) n ((i + 1 : Nat) : Int) t
        = { t with v_WATER_1 := A, g_Q1 := Q, v_a := a', brk := b, g_QDRAIN := qd } ∧
      A.length = t.v_WATER_1.length ∧ Q.length = t.g_Q1.length ∧
      (∀ j : Nat, rd A (j : Int) = if i ≤ j ∧ j < N then
          (infil t.g_DZ_Num t.g_DRAIDEP.toNat t.g_DRAIFAK t.v_a (i + 1) (infRest t i N)).1.getD (j - i) 0
        else rd t.v_WATER_1 (j : Int)) ∧
      (∀ j : Nat, rd Q (j : Int) = if i + 1 ≤ j ∧ j ≤ N then
          (infil t.g_DZ_Num t.g_DRAIDEP.toNat t.g_DRAIFAK t.v_a (i + 1) (infRest t i N)).2.1.getD (j - (i + 1)) 0
        else rd t.g_Q1 (j : Int)) ∧
      qd = (if t.g_DRAIDEP.toNat < i + 1 then t.g_QDRAIN
            else (infil t.g_DZ_Num t.g_DRAIDEP.toNat t.g_DRAIFAK t.v_a (i + 1) (infRest t i N)).2.2) := by
  intro n i t hin hN hb lW1 lQ hd
  obtain ⟨A, Q, a', b, qd, e, p1, p2, pq⟩ := infil_patch m N n i t hin hN hb lW1 lQ hd
  have hl := infil_length t.g_DZ_Num t.g_DRAIDEP.toNat t.g_DRAIFAK (infRest t i N) t.v_a (i + 1)
  rw [infRest_length] at hl
  refine ⟨A, Q, a', b, qd, e, p1.len, p2.len, ?_, ?_, ?_⟩
  · intro j
    rw [p1.rd j, hl.1, Nat.add_sub_cancel' (by omega : i ≤ N)]
  · intro j
    have hc : (i + 1 ≤ j ∧ j < i + 1 + (N - i)) ↔ (i + 1 ≤ j ∧ j ≤ N) := by omega
    rw [p2.rd j, hl.2, if_congr hc rfl rfl]
  · rw [pq]
    split_ifs with hlt
    · rw [infil_qdrain_zero _ _ _ _ _ _ hlt, add_zero]
    · rw [hd (by omega), zero_add]

/-- `x` plus an optional hand-down: the model's inline `match carry with | some c => x + c | none => x` (`overflow`, `evap`,
`phaseSurface`), which HermesProofs/Water.lean reads as `x + carry.getD 0`; they agree by `rfl` on each constructor -/
def addOpt (x : ℚ) : Option ℚ → ℚ
  | some c => x + c
  | none => x

/-- (WATER1[i], W[i], Q1[i+1]) of the layers i, …, N−1 as the state holds them -/
def ovRest (t : St ℚ) (i N : Nat) : List (ℚ × ℚ × ℚ) :=
  (List.range (N - i)).map (fun (d : Nat) =>
    (rd t.v_WATER_1 ((i + d : Nat) : Int), rd t.g_W ((i + d : Nat) : Int), rd t.g_Q1 ((i + d + 1 : Nat) : Int)))

theorem ovRest_nil (t : St ℚ) (N : Nat) : ovRest t N N = [] := by simp [ovRest]

theorem ovRest_cons (t : St ℚ) (i N : Nat) (h : i < N) :
    ovRest t i N = (rd t.v_WATER_1 (i : Int), rd t.g_W (i : Int), rd t.g_Q1 ((i + 1 : Nat) : Int)) :: ovRest t (i + 1) N := by
  unfold ovRest
  rw [show N - i = N - (i + 1) + 1 from by omega]
  exact map_range_shift (fun k => (rd t.v_WATER_1 (k : Int), rd t.g_W (k : Int), rd t.g_Q1 ((k + 1 : Nat) : Int))) i _

/-- The remaining layers seen from the state after one iteration, which changed the cells `i`, `i + 1` of WATER1 (the surplus is
already in `WATER1[i+1]`) and the cell `i + 1` of Q1.  The second part is the cell behind the last layer. -/
theorem overflow_after (t t' : St ℚ) (i N : Nat) (x q : ℚ) (c : Option ℚ) (hi : i + 1 ≤ N)
    (hdz : t'.g_DZ_Num = t.g_DZ_Num) (hW : t'.g_W = t.g_W)
    (hA : Patch t.v_WATER_1 t'.v_WATER_1 i [x, addOpt (rd t.v_WATER_1 ((i + 1 : Nat) : Int)) c])
    (hQ : Patch t.g_Q1 t'.g_Q1 (i + 1) [q]) :
    (overflow t'.g_DZ_Num none (ovRest t' (i + 1) N)).1 = (overflow t.g_DZ_Num c (ovRest t (i + 1) N)).1 ∧
    addOpt (rd t'.v_WATER_1 (N : Int)) (overflow t'.g_DZ_Num none (ovRest t' (i + 1) N)).2
      = addOpt (rd t.v_WATER_1 (N : Int)) (overflow t.g_DZ_Num c (ovRest t (i + 1) N)).2 := by
  have h1 : rd t'.v_WATER_1 ((i + 1 : Nat) : Int) = addOpt (rd t.v_WATER_1 ((i + 1 : Nat) : Int)) c :=
    hA.inside 1 (Nat.lt_succ_self 1)
  have h2 : ∀ j : Nat, i + 2 ≤ j → rd t'.v_WATER_1 (j : Int) = rd t.v_WATER_1 (j : Int) := fun j hj => hA.outside j (Or.inr hj)
  have h3 : ∀ j : Nat, i + 2 ≤ j → rd t'.g_Q1 (j : Int) = rd t.g_Q1 (j : Int) := fun j hj => hQ.outside j (Or.inr hj)
  by_cases hlt : i + 1 < N
  · have hr : ovRest t' (i + 1 + 1) N = ovRest t (i + 1 + 1) N := by
      unfold ovRest
      apply List.map_congr_left
      intro d _
      rw [hW, h2 (i + 1 + 1 + d) (by omega), h3 (i + 1 + 1 + d + 1) (by omega)]
    rw [ovRest_cons t' (i + 1) N hlt, ovRest_cons t (i + 1) N hlt, hr, hdz, hW, h1, h3 (i + 1 + 1) (by omega), h2 N (by omega)]
    -- on each constructor the model's `match` on the carry is `addOpt` by `rfl`
    cases c with
    | none => exact ⟨rfl, rfl⟩
    | some c =>
      rw [overflow_fold]
      exact ⟨rfl, rfl⟩
  · -- the last layer: the surplus went into the cell behind it
    obtain rfl : N = i + 1 := by omega
    rw [ovRest_nil, ovRest_nil]
    exact ⟨rfl, h1⟩

/-- The overflow loop from layer `i` on: WATER1 from cell `i` up to the cell behind the last layer, and Q1 from cell `i + 1`, are
the model's lists. -/
theorem overflow_patch (m : MathFns ℚ) (N : Nat) : ∀ (n i : Nat) (t : St ℚ), i + n = N → t.g_N = (N : Int) →
    N + 1 ≤ t.v_WATER_1.length → N + 1 ≤ t.g_Q1.length →
    ∃ A Q, loopUpN noBrk (loop8 m) n (i : Int) t = { t with v_WATER_1 := A, g_Q1 := Q } ∧
      Patch t.v_WATER_1 A i (((overflow t.g_DZ_Num none (ovRest t i N)).1.map (·.1))
        ++ [addOpt (rd t.v_WATER_1 (N : Int)) (overflow t.g_DZ_Num none (ovRest t i N)).2]) ∧
      Patch t.g_Q1 Q (i + 1) ((overflow t.g_DZ_Num none (ovRest t i N)).1.map (·.2)) := by
  intro n
  induction n with
  | zero =>
    intro i t hin hN lW1 lQ
    obtain rfl : i = N := by omega
    rw [ovRest_nil]
    simp only [overflow, addOpt, List.map_nil, List.nil_append]
    exact ⟨t.v_WATER_1, t.g_Q1, rfl, Patch.keep _ _, Patch.nil _ _⟩
  | succ n ih =>
    intro i t hin hN lW1 lQ
    have hiN : i < N := by omega
    have li : i < t.v_WATER_1.length := by omega
    have li1 : i + 1 < t.v_WATER_1.length := by omega
    have lq : i + 1 < t.g_Q1.length := by omega
    rw [loopUpN_noBrk_succ, ovRest_cons t i N hiN, ← Int.natCast_add_one]
    generalize ht' : loop8 m (i : Int) t = t'
    replace ht' := ht'.symm
    by_cases hov : rd t.g_W (i : Int) < rd t.v_WATER_1 (i : Int) / t.g_DZ_Num
    · -- surplus above field capacity is handed to the next layer
      have hW1i : rd (wr t.v_WATER_1 (i : Int) (rd t.g_W (i : Int) * t.g_DZ_Num)) ((i + 1 : Nat) : Int)
          = rd t.v_WATER_1 ((i + 1 : Nat) : Int) := rd_wr_ne _ _ _ _ (by omega)
      set sink := rd t.v_WATER_1 (i : Int) - rd t.g_W (i : Int) * t.g_DZ_Num with hsink
      have hbody : t' = { t with v_WATER_1 := wr (wr t.v_WATER_1 (i : Int) (rd t.g_W (i : Int) * t.g_DZ_Num)) ((i + 1 : Nat) : Int) (rd t.v_WATER_1 ((i + 1 : Nat) : Int) + sink), g_Q1 := wr t.g_Q1 ((i + 1 : Nat) : Int) (rd t.g_Q1 ((i + 1 : Nat) : Int) + sink) } := by
        rw [ht']
        simp only [loop8, hov, ↓reduceIte, ← Int.natCast_add_one, hW1i, ← hsink]
      have fN : t'.g_N = (N : Int) := by rw [hbody]; exact hN
      have fdz : t'.g_DZ_Num = t.g_DZ_Num := by rw [hbody]
      have fW : t'.g_W = t.g_W := by rw [hbody]
      have hA : Patch t.v_WATER_1 t'.v_WATER_1 i [rd t.g_W (i : Int) * t.g_DZ_Num, rd t.v_WATER_1 ((i + 1 : Nat) : Int) + sink] := by
        rw [hbody]
        exact Patch.comp (Patch.wr _ li) (Patch.wr _ (by rw [length_wr]; exact li1)) (Nat.zero_le _)
      have hQ : Patch t.g_Q1 t'.g_Q1 (i + 1) [rd t.g_Q1 ((i + 1 : Nat) : Int) + sink] := by
        rw [hbody]
        exact Patch.wr _ lq
      obtain ⟨A, Q, e, p1, p2⟩ := ih (i + 1) t' (by omega) fN (by rw [hA.len]; exact lW1) (by rw [hQ.len]; exact lQ)
      obtain ⟨hr1, hr2⟩ := overflow_after t t' i N _ _ (some sink) (by omega) fdz fW hA hQ
      rw [hr1, hr2] at p1
      rw [hr1] at p2
      rw [e]
      simp only [overflow, hov, ↓reduceIte, List.map_cons, List.cons_append, ← hsink]
      exact ⟨A, Q, by rw [hbody], Patch.comp hA p1 (by rw [List.length_append]; exact Nat.le_add_left _ _),
        Patch.comp hQ p2 (Nat.zero_le _)⟩
    · have hbody : t' = t := by
        rw [ht']
        simp only [loop8, hov, ↓reduceIte]
      rw [hbody]
      obtain ⟨A, Q, e, p1, p2⟩ := ih (i + 1) t (by omega) hN lW1 lQ
      rw [e]
      simp only [overflow, hov, ↓reduceIte, List.map_cons, List.cons_append]
      exact ⟨A, Q, rfl, Patch.comp (Patch.keep _ _) p1 (Nat.zero_le _), Patch.comp (Patch.keep _ _) p2 (Nat.zero_le _)⟩

theorem capLayer_succ (nfk : List ℚ) (k : Nat) :
    capLayer (vw nfk (k + 1)) = if rd nfk (k : Int) < 0.7 then k + 1 else capLayer (vw nfk k) := by
  have hle := capLayer_le (vw nfk k)
  rw [vw_length] at hle
  rw [vw_snoc]
  unfold capLayer at hle ⊢
  simp only [List.zipIdx_append, List.filter_append, List.map_append, List.foldl_append, vw_length, Nat.zero_add]
  by_cases hf : rd nfk (k : Int) < 0.7
  · simpa [hf, List.zipIdx] using Nat.le_succ_of_le hle
  · simp [hf, List.zipIdx]

theorem capLayer_nfk_lt (nfk : List ℚ) : ∀ n, 0 < capLayer (vw nfk n) → rd nfk ((capLayer (vw nfk n) - 1 : Nat) : Int) < 0.7
  | 0 => fun h => absurd h (Nat.lt_irrefl 0)
  | k + 1 => by
    rw [capLayer_succ]
    split
    · exact fun _ => ‹_›
    · exact capLayer_nfk_lt nfk k

theorem loop9_loop (m : MathFns ℚ) : ∀ (n : Nat) (t : St ℚ),
    loopDownN noBrk (loop9 m) n (n : Int) t
      = { t with v_caplay := if t.v_caplay = 0 then ((capLayer (vw t.l_NFK n) : Nat) : Int) else t.v_caplay }
  | 0, t => by
    rw [show (if t.v_caplay = 0 then ((capLayer (vw t.l_NFK 0) : Nat) : Int) else t.v_caplay) = t.v_caplay from
      ite_eq_right_iff.mpr Eq.symm]
    rfl
  | k + 1, t => by
    have hk : ¬ (((k + 1 : Nat) : Int) = 0) := by omega
    rw [loopDownN_noBrk_succ, natCast_succ_sub_one, loop9_loop m k]
    -- one iteration (water.go:927-932): the first layer from below with nFK < 0.7 is kept
    by_cases hc : t.v_caplay = 0
    · by_cases hf : rd t.l_NFK (k : Int) < 0.7
      · simp only [loop9, natCast_succ_sub_one, hc, hf, hk, ↓reduceIte, capLayer_succ]
      · simp only [loop9, natCast_succ_sub_one, hc, hf, ↓reduceIte, capLayer_succ]
    · simp only [loop9, hc, ↓reduceIte]

theorem evapLayer_fold (dz wdt c wa wmin ev0 : ℚ) :
    evapLayer dz wdt (some c) wa wmin ev0 = evapLayer dz wdt none wa wmin (ev0 + c) := rfl

/-- the hand-down added to the first of the cells below -/
def headAdd (c : Option ℚ) : List ℚ → List ℚ
  | [] => []
  | y :: ys => addOpt y c :: ys

/-- The model where the demand is met (`break`): the layers below keep their water and have no flux; their EV, read together with
the cell `last` behind the last layer, is as before but for the hand-down to the first of these cells. -/
theorem evap_break (dz wdt a1 : ℚ) (c0 : Option ℚ) (wa wmin ev0 : ℚ) (rest : List (ℚ × ℚ × ℚ)) (last : ℚ)
    (h : a1 < (evapLayer dz wdt c0 wa wmin ev0).2.2) :
    (evap dz wdt a1 c0 ((wa, wmin, ev0) :: rest)).1 = (wa - a1) :: rest.map (·.1) ∧
    (evap dz wdt a1 c0 ((wa, wmin, ev0) :: rest)).2.1 = 0 :: rest.map (fun _ => 0) ∧
    (evap dz wdt a1 c0 ((wa, wmin, ev0) :: rest)).2.2.1 ++ [addOpt last (evap dz wdt a1 c0 ((wa, wmin, ev0) :: rest)).2.2.2]
      = (evapLayer dz wdt c0 wa wmin ev0).1 :: headAdd (evapLayer dz wdt c0 wa wmin ev0).2.1 (rest.map (·.2.2) ++ [last]) := by
  simp only [evap, h, ↓reduceIte]
  refine ⟨trivial, trivial, ?_⟩
  generalize (evapLayer dz wdt c0 wa wmin ev0).2.1 = c
  cases rest with
  | nil => rfl
  | cons y more =>
    obtain ⟨y1, y2, y3⟩ := y
    cases c with
    | none => rfl
    | some c => rfl

/-- the EV array after the dryness-limit block of layer `i` (water.go:878-882) -/
def evAfter (t : St ℚ) (i : Nat) : List ℚ :=
  if rd t.v_WATER_0 (i : Int) - rd t.l_EV (i : Int) * t.p_wdt < rd t.g_WMIN (i : Int) / 3 * t.g_DZ_Num then
    wr (wr t.l_EV ((i + 1 : Nat) : Int)
        (rd t.l_EV ((i + 1 : Nat) : Int) + (rd t.l_EV (i : Int) - rd t.v_WATER_0 (i : Int) + rd t.g_WMIN (i : Int) / 3 * t.g_DZ_Num)))
      (i : Int) (rd t.v_WATER_0 (i : Int) - rd t.g_WMIN (i : Int) / 3 * t.g_DZ_Num)
  else t.l_EV

/-- the model's view of layer `i` of state `t` -/
def layerE (t : St ℚ) (i : Nat) : ℚ × Option ℚ × ℚ :=
  evapLayer t.g_DZ_Num t.p_wdt none (rd t.v_WATER_0 (i : Int)) (rd t.g_WMIN (i : Int)) (rd t.l_EV (i : Int))

theorem evAfter_patch (t : St ℚ) (i : Nat) (h : i + 1 < t.l_EV.length) :
    Patch t.l_EV (evAfter t i) i [(layerE t i).1, addOpt (rd t.l_EV ((i + 1 : Nat) : Int)) (layerE t i).2.1] := by
  unfold evAfter layerE evapLayer
  simp only []
  split
  · exact Patch.wr_front (Patch.wr _ h) _ (by omega)
  · exact Patch.comp (Patch.keep _ i) (Patch.keep _ (i + 1)) (Nat.zero_le _)

/-- One iteration of the evaporation loop (water.go:877-899).  Where the demand is met, WATER1 and Q1 are finished by the fill loop
below the drying front; otherwise the layer gives what it can. -/
theorem loop5_body (m : MathFns ℚ) (t : St ℚ) (i N : Nat) (hN : t.g_N = (N : Int)) (hi : i < N) (hb : t.brk = false)
    (lL : N ≤ t.l_LIMIT.length) :
    ∃ L, L.length = t.l_LIMIT.length ∧
      (t.v_a1 < (layerE t i).2.2 →
        loop5 m (i : Int) t = { t with l_LIMIT := L, l_EV := evAfter t i, v_wlost := t.v_a1, v_WATER_1 := fill (wr t.v_WATER_1 (i : Int) (rd t.v_WATER_0 (i : Int) - t.v_a1)) ((i + 1 : Nat) : Int) (fun j => rd t.v_WATER_0 j) (N - (i + 1)), g_Q1 := fill (wr t.g_Q1 ((i + 1 : Nat) : Int) 0) ((i + 1 + 1 : Nat) : Int) (fun _ => 0) (N - (i + 1)), brk := true }) ∧
      (¬ t.v_a1 < (layerE t i).2.2 →
        loop5 m (i : Int) t = { t with l_LIMIT := L, l_EV := evAfter t i, v_wlost := (layerE t i).2.2, v_a1 := t.v_a1 - (layerE t i).2.2, g_Q1 := wr t.g_Q1 ((i + 1 : Nat) : Int) (-(t.v_a1 - (layerE t i).2.2)), v_WATER_1 := wr t.v_WATER_1 (i : Int) (rd t.v_WATER_0 (i : Int) - (layerE t i).2.2) }) := by
  have hn : (t.g_N - ((i + 1 : Nat) : Int)).toNat = N - (i + 1) := by rw [hN]; omega
  have lLi : i < t.l_LIMIT.length := by omega
  have hL1 : rd (wr t.l_LIMIT (i : Int) (rd t.v_WATER_0 (i : Int) - rd t.l_EV (i : Int) * t.p_wdt)) (i : Int)
      = rd t.v_WATER_0 (i : Int) - rd t.l_EV (i : Int) * t.p_wdt := rd_wr_same _ _ _ (by omega) (by simpa using lLi)
  by_cases hlim : rd t.v_WATER_0 (i : Int) - rd t.l_EV (i : Int) * t.p_wdt < rd t.g_WMIN (i : Int) / 3 * t.g_DZ_Num
  · -- the layer is dried to a third of the wilting point, the rest of the demand moves down
    have hvc : (layerE t i).2.2 = rd t.v_WATER_0 (i : Int) - rd t.g_WMIN (i : Int) / 3 * t.g_DZ_Num := by
      simp only [layerE, evapLayer, hlim, ↓reduceIte]
    have hL2 : rd (wr (wr t.l_LIMIT (i : Int) (rd t.v_WATER_0 (i : Int) - rd t.l_EV (i : Int) * t.p_wdt)) (i : Int)
          (rd t.g_WMIN (i : Int) / 3 * t.g_DZ_Num)) (i : Int) = rd t.g_WMIN (i : Int) / 3 * t.g_DZ_Num :=
      rd_wr_same _ _ _ (by omega) (by simpa using lLi)
    refine ⟨wr (wr t.l_LIMIT (i : Int) (rd t.v_WATER_0 (i : Int) - rd t.l_EV (i : Int) * t.p_wdt)) (i : Int) (rd t.g_WMIN (i : Int) / 3 * t.g_DZ_Num),
      by rw [length_wr, length_wr], fun hlt => ?_, fun hlt => ?_⟩
    · rw [hvc] at hlt
      simp only [loop5, lit0, lit3, ← Int.natCast_add_one, hL1, hlim, ↓reduceIte, hL2, hlt, evAfter, loop6_eq m _ _ _ _ _ hn]
    · rw [hvc] at hlt
      simp only [loop5, lit3, ← Int.natCast_add_one, hL1, hlim, ↓reduceIte, hL2, hlt, evAfter, hvc, hb, Bool.false_eq_true]
  · -- the layer can give what is asked of it down to the dryness limit
    have hvc : (layerE t i).2.2 = rd t.v_WATER_0 (i : Int) - (rd t.v_WATER_0 (i : Int) - rd t.l_EV (i : Int) * t.p_wdt) := by
      simp only [layerE, evapLayer, hlim, ↓reduceIte]
    refine ⟨wr t.l_LIMIT (i : Int) (rd t.v_WATER_0 (i : Int) - rd t.l_EV (i : Int) * t.p_wdt), length_wr _ _ _,
      fun hlt => ?_, fun hlt => ?_⟩
    · rw [hvc] at hlt
      simp only [loop5, lit0, lit3, ← Int.natCast_add_one, hL1, hlim, ↓reduceIte, hlt, evAfter, loop6_eq m _ _ _ _ _ hn]
    · rw [hvc] at hlt
      simp only [loop5, lit3, ← Int.natCast_add_one, hL1, hlim, ↓reduceIte, hlt, evAfter, hvc, hb, Bool.false_eq_true]

/-- (WATER0, WMIN, EV) of the layers i, …, N−1 as the state holds them -/
def evRest (t : St ℚ) (i N : Nat) : List (ℚ × ℚ × ℚ) :=
  (List.range (N - i)).map (fun (d : Nat) =>
    (rd t.v_WATER_0 ((i + d : Nat) : Int), rd t.g_WMIN ((i + d : Nat) : Int), rd t.l_EV ((i + d : Nat) : Int)))

theorem evRest_nil (t : St ℚ) (N : Nat) : evRest t N N = [] := by simp [evRest]

theorem evRest_length (t : St ℚ) (i N : Nat) : (evRest t i N).length = N - i := by simp [evRest]

theorem evRest_cons (t : St ℚ) (i N : Nat) (h : i < N) :
    evRest t i N = (rd t.v_WATER_0 (i : Int), rd t.g_WMIN (i : Int), rd t.l_EV (i : Int)) :: evRest t (i + 1) N := by
  unfold evRest
  rw [show N - i = N - (i + 1) + 1 from by omega]
  exact map_range_shift (fun k => (rd t.v_WATER_0 (k : Int), rd t.g_WMIN (k : Int), rd t.l_EV (k : Int))) i _

theorem evRest_fst (t : St ℚ) (i N : Nat) : (evRest t i N).map (·.1) = seg t.v_WATER_0 i (N - i) := by
  unfold evRest seg
  rw [List.map_map]
  rfl

theorem evRest_ev (t : St ℚ) (i N : Nat) (h : i ≤ N) :
    (evRest t i N).map (·.2.2) ++ [rd t.l_EV (N : Int)] = seg t.l_EV i (N - i + 1) := by
  rw [seg_snoc, Nat.add_sub_cancel' h]
  unfold evRest seg
  rw [List.map_map]
  rfl

/-- The remaining layers seen from the state after one iteration, which changed the cells `i`, `i + 1` of EV (the hand-down is
already in `EV[i+1]`).  The last part is the cell behind the last layer. -/
theorem evap_after (t t' : St ℚ) (i N : Nat) (x : ℚ) (c : Option ℚ) (hi : i + 1 ≤ N)
    (hdz : t'.g_DZ_Num = t.g_DZ_Num) (hwdt : t'.p_wdt = t.p_wdt) (hW0 : t'.v_WATER_0 = t.v_WATER_0) (hWm : t'.g_WMIN = t.g_WMIN)
    (hE : Patch t.l_EV t'.l_EV i [x, addOpt (rd t.l_EV ((i + 1 : Nat) : Int)) c]) :
    (evap t'.g_DZ_Num t'.p_wdt t'.v_a1 none (evRest t' (i + 1) N)).1 = (evap t.g_DZ_Num t.p_wdt t'.v_a1 c (evRest t (i + 1) N)).1 ∧
    (evap t'.g_DZ_Num t'.p_wdt t'.v_a1 none (evRest t' (i + 1) N)).2.1 = (evap t.g_DZ_Num t.p_wdt t'.v_a1 c (evRest t (i + 1) N)).2.1 ∧
    (evap t'.g_DZ_Num t'.p_wdt t'.v_a1 none (evRest t' (i + 1) N)).2.2.1 = (evap t.g_DZ_Num t.p_wdt t'.v_a1 c (evRest t (i + 1) N)).2.2.1 ∧
    addOpt (rd t'.l_EV (N : Int)) (evap t'.g_DZ_Num t'.p_wdt t'.v_a1 none (evRest t' (i + 1) N)).2.2.2
      = addOpt (rd t.l_EV (N : Int)) (evap t.g_DZ_Num t.p_wdt t'.v_a1 c (evRest t (i + 1) N)).2.2.2 := by
  have h1 : rd t'.l_EV ((i + 1 : Nat) : Int) = addOpt (rd t.l_EV ((i + 1 : Nat) : Int)) c := hE.inside 1 (Nat.lt_succ_self 1)
  have h2 : ∀ j : Nat, i + 2 ≤ j → rd t'.l_EV (j : Int) = rd t.l_EV (j : Int) := fun j hj => hE.outside j (Or.inr hj)
  by_cases hlt : i + 1 < N
  · have hr : evRest t' (i + 1 + 1) N = evRest t (i + 1 + 1) N := by
      unfold evRest
      apply List.map_congr_left
      intro d _
      rw [hW0, hWm, h2 (i + 1 + 1 + d) (by omega)]
    have hfull : evap t'.g_DZ_Num t'.p_wdt t'.v_a1 none (evRest t' (i + 1) N)
        = evap t.g_DZ_Num t.p_wdt t'.v_a1 c (evRest t (i + 1) N) := by
      rw [evRest_cons t' (i + 1) N hlt, evRest_cons t (i + 1) N hlt, hr, hdz, hwdt, hW0, hWm, h1]
      -- as in `overflow_after`: the model's `match` on the carry is `addOpt` by `rfl`
      cases c with
      | none => rfl
      | some c => rw [evap_fold]; rfl
    rw [hfull, h2 N (by omega)]
    exact ⟨rfl, rfl, rfl, rfl⟩
  · -- the last layer: the hand-down went into the cell behind it
    obtain rfl : N = i + 1 := by omega
    rw [evRest_nil, evRest_nil]
    exact ⟨rfl, rfl, rfl, h1⟩

/-- The evaporation loop from layer `i` on: WATER1 from cell `i`, Q1 from cell `i + 1`, and EV from cell `i` up to the cell behind
the last layer, are the model's lists. -/
theorem evap_patch (m : MathFns ℚ) (N : Nat) : ∀ (n i : Nat) (t : St ℚ), i + n = N → t.g_N = (N : Int) → t.brk = false →
    N ≤ t.v_WATER_1.length → N + 1 ≤ t.g_Q1.length → N + 1 ≤ t.l_EV.length → N ≤ t.l_LIMIT.length →
    ∃ A Q E L a1' wl b, loopUpN (fun s => s.brk) (loop5 m) n (i : Int) t
        = { t with v_WATER_1 := A, g_Q1 := Q, l_EV := E, l_LIMIT := L, v_a1 := a1', v_wlost := wl, brk := b } ∧
      Patch t.v_WATER_1 A i (evap t.g_DZ_Num t.p_wdt t.v_a1 none (evRest t i N)).1 ∧
      Patch t.g_Q1 Q (i + 1) (evap t.g_DZ_Num t.p_wdt t.v_a1 none (evRest t i N)).2.1 ∧
      Patch t.l_EV E i ((evap t.g_DZ_Num t.p_wdt t.v_a1 none (evRest t i N)).2.2.1
        ++ [addOpt (rd t.l_EV (N : Int)) (evap t.g_DZ_Num t.p_wdt t.v_a1 none (evRest t i N)).2.2.2]) := by
  intro n
  induction n with
  | zero =>
    intro i t hin hN hb lW1 lQ lE lL
    obtain rfl : i = N := by omega
    rw [evRest_nil]
    simp only [evap, addOpt, List.nil_append]
    exact ⟨t.v_WATER_1, t.g_Q1, t.l_EV, t.l_LIMIT, t.v_a1, t.v_wlost, t.brk, rfl, Patch.nil _ _, Patch.nil _ _, Patch.keep _ _⟩
  | succ n ih =>
    intro i t hin hN hb lW1 lQ lE lL
    have hiN : i < N := by omega
    have li : i < t.v_WATER_1.length := by omega
    have lq : i + 1 < t.g_Q1.length := by omega
    have hE : Patch t.l_EV (evAfter t i) i [(layerE t i).1, addOpt (rd t.l_EV ((i + 1 : Nat) : Int)) (layerE t i).2.1] :=
      evAfter_patch t i (by omega)
    obtain ⟨L, hL, hbrk, hcont⟩ := loop5_body m t i N hN hiN hb lL
    have hlay : evapLayer t.g_DZ_Num t.p_wdt none (rd t.v_WATER_0 (i : Int)) (rd t.g_WMIN (i : Int)) (rd t.l_EV (i : Int))
        = layerE t i := rfl
    rw [evRest_cons t i N hiN]
    by_cases hlt : t.v_a1 < (layerE t i).2.2
    · -- the demand is met in this layer: the rest of the profile is untouched, break
      have e := hbrk hlt
      obtain ⟨m1, m2, m3⟩ := evap_break t.g_DZ_Num t.p_wdt t.v_a1 none _ _ _ (evRest t (i + 1) N) (rd t.l_EV (N : Int)) hlt
      rw [loopUpN_succ_brk (fun s : St ℚ => s.brk) (loop5 m) n (i : Int) t (by rw [e]), e, m1, m2, m3, hlay, evRest_fst,
        map_zero_eq, evRest_length, evRest_ev t (i + 1) N hiN, seg_succ]
      -- cell `i` resp. `i + 1` was written, the fill loop did the cells after it
      exact ⟨_, _, evAfter t i, L, t.v_a1, t.v_a1, true, rfl,
        Patch.comp (Patch.wr _ li) (Patch.fill _ (i + 1) _ _ (by rw [length_wr]; omega)) (Nat.zero_le _),
        Patch.comp (Patch.wr _ lq) (Patch.fill _ (i + 1 + 1) _ _ (by rw [length_wr]; omega)) (Nat.zero_le _), hE.extend _⟩
    · -- the layer gives what it can, the rest of the demand moves down
      have e := hcont hlt
      have key := ih (i + 1) (loop5 m (i : Int) t) (by omega)
      obtain ⟨r1, r2, r3, r4⟩ := evap_after t (loop5 m (i : Int) t) i N _ (layerE t i).2.1 hiN
        (by rw [e]) (by rw [e]) (by rw [e]) (by rw [e]) (by rw [e]; exact hE)
      rw [loopUpN_succ_cont (fun s : St ℚ => s.brk) (loop5 m) n (i : Int) t (by rw [e]; exact hb)]
      rw [e] at key r1 r2 r3 r4 ⊢
      obtain ⟨A, Q, E, L2, a1f, wlf, bf, ef, p1, p2, p3⟩ := key hN hb (by rw [length_wr]; exact lW1)
        (by rw [length_wr]; exact lQ) (by rw [hE.len]; exact lE) (by rw [hL]; exact lL)
      rw [r1] at p1
      rw [r2] at p2
      rw [r3, r4] at p3
      rw [← Int.natCast_add_one, ef]
      simp only [evap, hlay, hlt, ↓reduceIte, List.cons_append]
      exact ⟨A, Q, E, L2, a1f, wlf, bf, rfl, Patch.comp (Patch.wr _ li) p1 (Nat.zero_le _),
        Patch.comp (Patch.wr _ lq) p2 (Nat.zero_le _),
        Patch.comp hE p3 (by rw [List.length_append]; exact Nat.le_add_left _ _)⟩

end Hermes.ImpWater
