/-
Alignment of the weather readers: a gap-free series of dates ends up in the slots
[year − first year][day of year − 1]. Core Lean only.
-/
import HermesModel.Weather
import HermesProofs.Weather
import HermesProofs.ListLemmas
namespace Hermes.Weather

variable {π : Type}

/-- `b` is the calendar day after `a` (Gregorian calendar) -/
def nextDayB (a b : Rec π) : Bool :=
  (b.year == a.year && b.doy == a.doy + 1) || (b.year == a.year + 1 && b.doy == 1 && a.doy == daysInYear a.year)

def gapFreeB : List (Rec π) → Bool
  | a :: b :: rest => nextDayB a b && gapFreeB (b :: rest)
  | _ => true

/-- consecutive calendar days -/
def GapFree (recs : List (Rec π)) : Prop := gapFreeB recs = true
instance (recs : List (Rec π)) : Decidable (GapFree recs) := by unfold GapFree; infer_instance

/-- the date of the line parsed and its day of the year lies in its year -/
def ValidRec (r : Rec π) : Prop := r.bad = false ∧ 1 ≤ r.doy ∧ r.doy ≤ daysInYear r.year
instance (r : Rec π) : Decidable (ValidRec r) := by unfold ValidRec; infer_instance

/-- year of the first record that is not skipped (slot 0 of the arrays) -/
def firstYear (startyear : Nat) : List (Rec π) → Nat
  | [] => startyear
  | r :: rs => if r.year < startyear then firstYear startyear rs else r.year

theorem nextDayB_cases (a b : Rec π) (h : nextDayB a b = true) :
    (b.year = a.year ∧ b.doy = a.doy + 1) ∨ (b.year = a.year + 1 ∧ b.doy = 1 ∧ a.doy = daysInYear a.year) := by
  simpa [nextDayB, and_assoc] using h

theorem gapFree_cons {a b : Rec π} {rest : List (Rec π)} :
    GapFree (a :: b :: rest) ↔ nextDayB a b = true ∧ GapFree (b :: rest) := by
  simp [GapFree, gapFreeB]

theorem gapFree_tail {l : Rec π} {rest : List (Rec π)} (h : GapFree (l :: rest)) : GapFree rest := by
  cases rest with
  | nil => exact rfl
  | cons b rest' => exact (gapFree_cons.mp h).2

theorem gapFree_later (l : Rec π) (rest : List (Rec π)) (h : GapFree (l :: rest)) :
    ∀ q ∈ rest, q.year > l.year ∨ (q.year = l.year ∧ q.doy > l.doy) := by
  induction rest generalizing l with
  | nil => intro q hq; simp at hq
  | cons r rest' ih =>
    obtain ⟨hn, hg⟩ := gapFree_cons.mp h
    have hc := nextDayB_cases l r hn
    intro q hq
    rcases List.mem_cons.mp hq with rfl | hq'
    · omega
    · have := ih r hg q hq'
      omega

theorem gapFree_year_le {l q : Rec π} {rest : List (Rec π)} (h : GapFree (l :: rest)) (hq : q ∈ l :: rest) :
    l.year ≤ q.year := by
  rcases List.mem_cons.mp hq with rfl | hq'
  · exact Nat.le_refl _
  · have := gapFree_later l rest h q hq'; omega

theorem gapFree_date_unique (recs : List (Rec π)) (hg : GapFree recs) :
    ∀ a ∈ recs, ∀ b ∈ recs, a.year = b.year → a.doy = b.doy → a = b := by
  induction recs with
  | nil => intro a ha; simp at ha
  | cons l rest ih =>
    intro a ha b hb hy hd
    rcases List.mem_cons.mp ha with hal | ha' <;> rcases List.mem_cons.mp hb with hbl | hb'
    · rw [hal, hbl]
    · subst hal; have := gapFree_later a rest hg b hb'; omega
    · subst hbl; have := gapFree_later b rest hg a ha'; omega
    · exact ih (gapFree_tail hg) a ha' b hb' hy hd

theorem firstYear_eq (sy : Nat) (recs : List (Rec π)) (hg : GapFree recs)
    (h : ∃ r ∈ recs, r.year = sy) : firstYear sy recs = sy := by
  induction recs with
  | nil => obtain ⟨r, hr, _⟩ := h; simp at hr
  | cons f rest ih =>
    obtain ⟨r, hr, hy⟩ := h
    rw [firstYear]
    split
    · rcases List.mem_cons.mp hr with rfl | hr'
      · omega
      · exact ih (gapFree_tail hg) ⟨r, hr', hy⟩
    · have := gapFree_year_le hg hr
      omega

namespace Store

theorem get_put (s : Store π) (i j i' j' : Nat) (v : π) (y T : Nat) :
    (s.put i j v y T).get i' j' = if i = i' ∧ j = j' then some v else s.get i' j' := rfl

theorem jarAt_put (s : Store π) (i j i' : Nat) (v : π) (y T : Nat) :
    (s.put i j v y T).jarAt i' = if i = i' then y else s.jarAt i' := rfl

theorem maxAt_put (s : Store π) (i j i' : Nat) (v : π) (y T : Nat) :
    (s.put i j v y T).maxAt i' = if i = i' then T else s.maxAt i' := rfl

theorem get_put0 (s : Store π) (j j' : Nat) (v : π) (T : Nat) :
    (s.put0 j v T).get 0 j' = if j = j' then some v else s.get 0 j' := by
  simp [put0, get, lookup2]

theorem jarAt_put0 (s : Store π) (j : Nat) (v : π) (T i : Nat) : (s.put0 j v T).jarAt i = s.jarAt i := rfl

theorem maxAt_put0 (s : Store π) (j : Nat) (v : π) (T : Nat) : (s.put0 j v T).maxAt 0 = T := by
  simp [put0, maxAt, lookup1]

theorem jarAt_setJar (s : Store π) (i y : Nat) : (s.setJar i y).jarAt i = y := by
  simp [setJar, jarAt, lookup1]

end Store

/-- the loop state after storing `l` into year slot `k` of `st` -/
def stored (k : Nat) (l : Rec π) (st : Store π) : MState π :=
  { T := l.doy, yrz := k + 1, first := false, store := st.put k (l.doy - 1) l.val l.year l.doy }

/-- A record that passes the checks — the next day of the slot in use, a 1 January after a complete year, or the first record
kept (whatever its day of the year) — is stored in the year slot `k'` that `advance` computes if that slot is allocated;
if not, the loop ends (`break`). -/
theorem multiStep_pass (sy cap : Nat) (s : MState π) (r : Rec π) (k' : Nat) (hb : r.bad = false) (hns : ¬ r.year < sy)
    (hsw : s.first = true ∨ ¬ r.doy = 1 ∨ switchOk s r = true)
    (hadv : advance s.first (s.T + 1) s.yrz r.doy = (r.doy, k' + 1)) :
    multiStep sy cap s r =
      if k' < cap then .cont (stored k' r s.store) else .stop { s with T := r.doy, yrz := k', first := false } := by
  have h1 : (!s.first && decide (r.doy = 1) && !switchOk s r) = false := by
    rcases hsw with h | h | h <;> simp [h]
  have h2 : cap < k' + 1 ↔ ¬ k' < cap := by omega
  by_cases hc : k' < cap <;> simp [multiStep, stored, hb, hns, h1, hadv, h2, hc]

/-- After `l` went into slot `k`, the next calendar day goes into the slot of its year: the counters follow the dates. -/
theorem multiStep_next {sy cap y0 k : Nat} {l r : Rec π} (st : Store π) (hn : nextDayB l r = true) (hb : r.bad = false)
    (hly : l.year = y0 + k) (hsy : sy ≤ l.year) (hcap : k < cap) (hl1 : 1 ≤ l.doy) :
    multiStep sy cap (stored k l st) r =
      if r.year - y0 < cap then .cont (stored (r.year - y0) r (stored k l st).store)
      else .stop { stored k l st with T := r.doy } := by
  rcases nextDayB_cases l r hn with ⟨hy, hd⟩ | ⟨hy, hd, hlast⟩
  · rw [show r.year - y0 = k by omega, if_pos hcap]
    exact (multiStep_pass sy cap _ r k hb (by omega) (Or.inr (Or.inl (by omega)))
      (by simp [advance, stored, show ¬ r.doy = 1 by omega]; omega)).trans (if_pos hcap)
  · -- 1 January of the next year: the slot in use holds the complete previous year
    have hsw : switchOk (stored k l st) r = true := by
      have e : r.year - 1 = l.year := by omega
      simp [switchOk, stored, Store.jarAt_put, Store.maxAt_put, e, hlast]
    rw [show r.year - y0 = k + 1 by omega]
    exact multiStep_pass sy cap _ r (k + 1) hb (by omega) (Or.inr (Or.inr hsw)) (by simp [advance, stored, hd])

theorem multiStep_bad_switch (sy cap : Nat) (s : MState π) (r : Rec π) (hns : ¬ r.year < sy) (hf : s.first = false)
    (hd : r.doy = 1) (hsw : switchOk s r = false) : multiStep sy cap s r = .gap := by
  simp [multiStep, hns, hf, hd, hsw]

theorem multiStep_gap (sy cap : Nat) (s : MState π) (r : Rec π) (hb : r.bad = false) (hns : ¬ r.year < sy) (hf : s.first = false)
    (h1 : r.doy ≠ 1) (hg : r.doy ≠ s.T + 1) : multiStep sy cap s r = .gap := by
  simp [multiStep, advance, hb, hns, hf, h1, hg]

theorem multiStep_bad_date (sy cap : Nat) (s : MState π) (r : Rec π) (hb : r.bad = true) : multiStep sy cap s r = .gap := by
  simp [multiStep, hb]

theorem multiStep_skip (sy cap : Nat) (s : MState π) (r : Rec π) (hb : r.bad = false) (hs : r.year < sy) :
    multiStep sy cap s r = .cont { s with T := s.T + 1 } := by
  simp [multiStep, hb, hs]

/-- What the multi-year readers leave in the arrays (`y0` = year of slot 0, `n` = year slots in use):
`JAR` holds consecutive years, and the record of date (y, doy), y from the start year on and within
the allocated years, is in slot `[y − y0][doy − 1]` of a slot in use whose `MaxYearDays` is the
largest day of the year read for it. -/
def AlignedStore (recs : List (Rec π)) (sy y0 cap n : Nat) (s : Store π) : Prop :=
  (∀ i, i < n → s.jarAt i = y0 + i) ∧
  ∀ r ∈ recs, sy ≤ r.year → r.year < y0 + cap →
    y0 ≤ r.year ∧ r.year - y0 < n ∧ s.get (r.year - y0) (r.doy - 1) = some r.val ∧
    r.doy ≤ s.maxAt (r.year - y0) ∧ ∃ q ∈ recs, q.year = r.year ∧ s.maxAt (r.year - y0) = q.doy

section
variable {recs : List (Rec π)} {sy y0 cap n : Nat} {s : Store π} (h : AlignedStore recs sy y0 cap n s)
  {r : Rec π} (hr : r ∈ recs) (h1 : sy ≤ r.year) (h2 : r.year < y0 + cap)
include h hr h1 h2

theorem AlignedStore.slot_lt : r.year - y0 < n := (h.2 r hr h1 h2).2.1

theorem AlignedStore.get : s.get (r.year - y0) (r.doy - 1) = some r.val := (h.2 r hr h1 h2).2.2.1

theorem AlignedStore.doy_le_maxAt : r.doy ≤ s.maxAt (r.year - y0) := (h.2 r hr h1 h2).2.2.2.1

theorem AlignedStore.maxAt_is_doy : ∃ q ∈ recs, q.year = r.year ∧ s.maxAt (r.year - y0) = q.doy := (h.2 r hr h1 h2).2.2.2.2

theorem AlignedStore.jarAt : s.jarAt (r.year - y0) = r.year := by
  have := (h.2 r hr h1 h2).1
  rw [h.1 _ (h.slot_lt hr h1 h2)]; omega

end

theorem AlignedStore.nil (sy y0 cap : Nat) (s : Store π) : AlignedStore [] sy y0 cap 0 s :=
  ⟨fun _ hi => absurd hi (Nat.not_lt_zero _), fun _ hr => absurd hr List.not_mem_nil⟩

theorem AlignedStore.mono {recs recs' : List (Rec π)} {sy y0 cap n : Nat} {s : Store π} (h : AlignedStore recs sy y0 cap n s)
    (hsub : recs ⊆ recs') (hout : ∀ q ∈ recs', q ∈ recs ∨ q.year < sy ∨ y0 + cap ≤ q.year) :
    AlignedStore recs' sy y0 cap n s := by
  refine ⟨h.1, fun q hq h1 h2 => ?_⟩
  rcases hout q hq with hq' | h | h
  · obtain ⟨a, b, c, d, q', hq'm, e⟩ := h.2 q hq' h1 h2
    exact ⟨a, b, c, d, q', hsub hq'm, e⟩
  · omega
  · omega

/-- One more record, written to the last slot in use behind its last day, or to the next slot. -/
theorem AlignedStore.snoc {recs : List (Rec π)} {sy y0 cap n k : Nat} {s : Store π} {r : Rec π}
    (h : AlignedStore recs sy y0 cap n s) (hry : r.year = y0 + k) (hk : k ≤ n) (hn : n ≤ k + 1)
    (hmax : n = k + 1 → 1 ≤ s.maxAt k ∧ s.maxAt k < r.doy) :
    AlignedStore (recs ++ [r]) sy y0 cap (k + 1) (s.put k (r.doy - 1) r.val r.year r.doy) := by
  refine ⟨fun i hi => ?_, fun q hq h1 h2 => ?_⟩
  · rw [Store.jarAt_put]
    split
    · omega
    · exact h.1 i (by omega)
  · rw [Store.get_put, Store.maxAt_put]
    rcases List.mem_append.mp hq with hq | hq
    · obtain ⟨a, b, c, d, q', hq', e⟩ := h.2 q hq h1 h2
      by_cases hs : k = q.year - y0
      · -- the same slot: `q` lies before its last day, hence before `r`, and `r` is the last day of the slot from here on
        rw [← hs] at d
        obtain ⟨m1, m2⟩ := hmax (by omega)
        rw [if_neg (by omega), if_pos hs]
        exact ⟨a, by omega, c, by omega, r, by simp, by omega, rfl⟩
      · rw [if_neg (fun h => hs h.1), if_neg hs]
        exact ⟨a, by omega, c, d, q', List.mem_append_left _ hq', e⟩
    · rw [List.mem_singleton.mp hq, show r.year - y0 = k by omega, if_pos ⟨rfl, rfl⟩, if_pos rfl]
      exact ⟨by omega, Nat.lt_succ_self k, rfl, Nat.le_refl _, r, by simp, rfl, rfl⟩

theorem maxAt_stored (k : Nat) (l : Rec π) (st : Store π) : (stored k l st).store.maxAt k = l.doy := if_pos rfl

/-- `AlignedStore` for the records read so far is the loop invariant: from the state after storing `l`, the last of `pre`, the
loop over the following days `rest` ends with the arrays aligned for all of them. -/
theorem aligned_from {sy cap y0 k : Nat} (hsy : sy ≤ y0) {pre rest : List (Rec π)} {l : Rec π} (st : Store π)
    (hly : l.year = y0 + k) (hcap : k < cap) (hl1 : 1 ≤ l.doy) (hA : AlignedStore pre sy y0 cap (k + 1) (stored k l st).store)
    (hgf : GapFree (l :: rest)) (hnb : ∀ r ∈ rest, r.bad = false) :
    ∃ ms, readMultiFrom sy cap (stored k l st) rest = some ms ∧ AlignedStore (pre ++ rest) sy y0 cap ms.yrz ms.store := by
  induction rest generalizing pre l st k with
  | nil => exact ⟨_, rfl, by rwa [List.append_nil]⟩
  | cons r rest' ih =>
    obtain ⟨hn, hg'⟩ := gapFree_cons.mp hgf
    have hc := nextDayB_cases l r hn
    rw [readMultiFrom, multiStep_next st hn (hnb r (List.mem_cons_self ..)) hly (by omega) hcap hl1]
    by_cases hover : r.year - y0 < cap
    · rw [if_pos hover, List.append_cons]
      exact ih _ (by omega) hover (by omega)
        (hA.snoc (by omega) (by omega) (by omega) fun h => by
          rw [show r.year - y0 = k by omega, maxAt_stored]; omega)
        hg' fun q hq => hnb q (List.mem_cons_of_mem _ hq)
    · -- more years in the file than allocated: `break`; neither `r` nor a later record lies in an allocated year
      rw [if_neg hover]
      refine ⟨_, rfl, hA.mono (List.subset_append_left ..) fun q hq => ?_⟩
      rcases List.mem_append.mp hq with h | h
      · exact Or.inl h
      · have := gapFree_year_le hg' h
        exact Or.inr (Or.inr (by omega))

theorem aligned_first (sy cap : Nat) (recs : List (Rec π)) (s : MState π) (hf : s.first = true) (h0 : s.yrz = 0)
    (hv : ∀ r ∈ recs, r.bad = false ∧ 1 ≤ r.doy) (hgf : GapFree recs) :
    ∃ ms, readMultiFrom sy cap s recs = some ms ∧ AlignedStore recs sy (firstYear sy recs) cap ms.yrz ms.store := by
  fun_induction firstYear sy recs generalizing s with
  | case1 => exact ⟨s, rfl, h0 ▸ AlignedStore.nil ..⟩
  | case2 f rest hskip ih =>
    obtain ⟨ms, hread, hA⟩ := ih { s with T := s.T + 1 } hf h0 (fun q hq => hv q (List.mem_cons_of_mem _ hq)) (gapFree_tail hgf)
    rw [readMultiFrom, multiStep_skip sy cap s f (hv f (List.mem_cons_self ..)).1 hskip]
    exact ⟨ms, hread, hA.mono (List.subset_cons_self ..) fun q hq =>
      (List.mem_cons.mp hq).elim (fun e => Or.inr (Or.inl (e ▸ hskip))) Or.inl⟩
  | case3 f rest hskip =>
    -- `f` is the first record kept: slot 0, whatever its day of the year
    obtain ⟨hfb, hf1⟩ := hv f (List.mem_cons_self ..)
    rw [readMultiFrom, multiStep_pass sy cap s f 0 hfb hskip (Or.inl hf) (by simp [advance, hf])]
    by_cases hover : 0 < cap
    · rw [if_pos hover]
      exact aligned_from (pre := [f]) (by omega) s.store rfl hover hf1
        ((AlignedStore.nil sy f.year cap s.store).snoc rfl (Nat.le_refl _) (Nat.zero_le _) (by omega)) hgf
        fun q hq => (hv q (List.mem_cons_of_mem _ hq)).1
    · rw [if_neg hover]
      refine ⟨_, rfl, (AlignedStore.nil sy f.year cap s.store).mono (List.nil_subset _) fun q hq => ?_⟩
      have := gapFree_year_le hgf hq
      exact Or.inr (Or.inr (by omega))

theorem readMulti_alignedStore (startyear cap : Nat) (recs : List (Rec π))
    (hv : ∀ r ∈ recs, ValidRec r) (hg : GapFree recs) :
    ∃ ms, readMulti startyear cap recs = some ms ∧
      AlignedStore recs startyear (firstYear startyear recs) cap ms.yrz ms.store :=
  aligned_first startyear cap recs {} rfl rfl (fun r hr => ⟨(hv r hr).1, (hv r hr).2.1⟩) hg

/-- lines numbered T, T+1, … -/
def numberFrom (T : Nat) : List π → List (Nat × π)
  | [] => []
  | v :: vs => (T, v) :: numberFrom (T + 1) vs

theorem numberFrom_eq_mapIdx (vs : List π) (T : Nat) : numberFrom T vs = vs.mapIdx fun k v => (T + k, v) :=
  eq_mapIdx_of_step numberFrom (fun j v => (j, v)) (fun _ => rfl) (fun _ _ _ => rfl) vs T

/-- `MaxYearDays[0]` is the number of the last line read; with no line to read it keeps its value, hence the hypothesis for `vals = []`. -/
theorem readYearLines_aligned (year : Nat) (vals : List π) (st : Store π) (tlast : Nat)
    (hlen : tlast + vals.length ≤ daysInYear year) (hT : vals = [] → st.maxAt 0 = tlast) :
    ∃ st', readYearLines year st tlast (numberFrom (tlast + 1) vals) = (st', YStatus.ok) ∧
      (∀ i, st'.jarAt i = st.jarAt i) ∧ st'.maxAt 0 = tlast + vals.length ∧
      (∀ j, j < tlast → st'.get 0 j = st.get 0 j) ∧
      ∀ k (hk : k < vals.length), st'.get 0 (tlast + k) = some vals[k] := by
  induction vals generalizing st tlast with
  | nil => exact ⟨st, rfl, fun _ => rfl, hT rfl, fun _ _ => rfl, fun k hk => absurd hk (by simp)⟩
  | cons v vs ih =>
    simp only [List.length_cons] at hlen
    have h2 : ¬ tlast + 1 > daysInYear year := by omega
    obtain ⟨st', e, b, c, d, f⟩ := ih (st.put0 tlast v (tlast + 1)) (tlast + 1) (by omega) fun _ => Store.maxAt_put0 ..
    refine ⟨st', by simp [numberFrom, readYearLines, h2, e], fun i => (b i).trans (Store.jarAt_put0 ..),
      by rw [c, List.length_cons]; omega, fun j hj => ?_, fun k hk => ?_⟩
    · rw [d j (by omega), Store.get_put0, if_neg (by omega)]
    · cases k with
      | zero => rw [Nat.add_zero, d tlast (by omega), Store.get_put0, if_pos rfl]; rfl
      | succ k' =>
        rw [show tlast + (k' + 1) = tlast + 1 + k' by omega]
        exact f k' (by simpa using hk)

theorem readYearFile_aligned (year : Nat) (st : Store π) (vals : List π) (hne : vals ≠ []) (hn : vals.length ≤ daysInYear year) :
    ∃ st', readYearFile year st (some (numberFrom 1 vals)) = (st', YStatus.ok) ∧ st'.jarAt 0 = year ∧
      st'.maxAt 0 = vals.length ∧ ∀ k (hk : k < vals.length), st'.get 0 k = some vals[k] := by
  obtain ⟨st', e, b, c, _, f⟩ := readYearLines_aligned year vals (st.setJar 0 year) 0 (by omega) fun h => absurd h hne
  simp only [Nat.zero_add] at e c f
  refine ⟨st', ?_, (b 0).trans (Store.jarAt_setJar ..), c, f⟩
  cases vals with
  | nil => exact absurd rfl hne
  | cons v vs => rw [← e]; simp [numberFrom, readYearFile]

theorem findYear_eq_find? (s : Store π) (year : Nat) : ∀ l : List Nat,
    findYear s year l = (l.find? fun i => decide (s.jarAt i = year)).map fun i => (i, s.maxAt i)
  | [] => rfl
  | a :: rest => by
    rw [findYear, List.find?_cons, findYear_eq_find? s year rest]
    by_cases he : s.jarAt a = year <;> simp [he]

theorem loadYear_eq_some (s : Store π) (cap year i d : Nat) :
    loadYear s cap year = some (i, d) ↔ (s.jarAt i = year ∧ i < cap ∧ ∀ j, j < i → s.jarAt j ≠ year) ∧ d = s.maxAt i := by
  rw [loadYear, findYear_eq_find?, Option.map_eq_some_iff]
  constructor
  · rintro ⟨a, ha, e⟩
    cases e
    exact ⟨by simpa using ha, rfl⟩
  · rintro ⟨h, rfl⟩
    exact ⟨i, by simpa using h, rfl⟩

theorem loadYear_first (s : Store π) (cap year i0 : Nat) (hj : s.jarAt i0 = year) (hc : i0 < cap)
    (hf : ∀ i, i < i0 → s.jarAt i ≠ year) : loadYear s cap year = some (i0, s.maxAt i0) :=
  (loadYear_eq_some ..).mpr ⟨⟨hj, hc, hf⟩, rfl⟩

end Hermes.Weather
