/-
The loops inside a run: the day-length searches of longday.go (HermesModel/LangTag.lean) and the day loop header
(HermesModel/Dispatch.lean, namespace `Hermes.RunLoop`).  Core Lean only.
-/
import HermesModel.Dispatch
import HermesModel.LangTag

namespace Hermes.LangTag

variable {α : Type} [LT α] [DecidableLT α]

theorem searchPinned_eq_find? (dl : Nat → α) (thr : α) (fuel tag : Nat) :
    searchPinned dl thr fuel tag = (List.range' (tag + 1) fuel).find? fun t => thr < dl t := by
  fun_induction searchPinned dl thr fuel tag with
  | case1 => rfl
  | case2 f tag hc => simp [List.range'_succ, hc]
  | case3 f tag hc ih => simp [List.range'_succ, hc, ih]

theorem searchPinned_some {dl : Nat → α} {thr : α} (fuel tag r : Nat) (h : searchPinned dl thr fuel tag = some r) :
    tag < r ∧ r ≤ tag + fuel ∧ thr < dl r ∧ ∀ t, tag < t → t < r → ¬ thr < dl t := by
  rw [searchPinned_eq_find?, List.find?_range'_eq_some, List.mem_range'_1] at h
  simp only [decide_eq_true_eq, Bool.not_eq_eq_eq_not, Bool.not_true, decide_eq_false_iff_not] at h
  exact ⟨by omega, by omega, h.1, fun t h1 h2 => h.2.2 t h1 h2⟩

theorem searchPinned_none {dl : Nat → α} {thr : α} (fuel tag : Nat) :
    searchPinned dl thr fuel tag = none ↔ ∀ t, tag < t → t ≤ tag + fuel → ¬ thr < dl t := by
  rw [searchPinned_eq_find?, List.find?_range'_eq_none]
  simp only [Bool.not_eq_eq_eq_not, Bool.not_true, decide_eq_false_iff_not]
  constructor <;> intro h t h1 h2 <;> exact h t (by omega) (by omega)

theorem scan_range {dl : Nat → α} {thr : α} (fuel tag : Nat) (longest : α) (ld : Nat) :
    scan dl thr fuel tag longest ld = ld ∨
      (tag ≤ scan dl thr fuel tag longest ld ∧ scan dl thr fuel tag longest ld < tag + fuel) := by
  fun_induction scan dl thr fuel tag longest ld with
  | case1 => left; rfl
  | case2 => right; omega
  | case3 f tag longest ld h1 h2 ih => right; rcases ih with h | h <;> omega
  | case4 f tag longest ld h1 h2 ih => exact ih.imp id fun h => by omega

theorem scan_eq_pinned {dl : Nat → α} {thr : α} (fuel tag r : Nat) (longest : α) (ld : Nat)
    (h : searchPinned dl thr fuel tag = some r) : scan dl thr fuel (tag + 1) longest ld = r := by
  fun_induction searchPinned dl thr fuel tag generalizing longest ld with
  | case1 => cases h
  | case2 f tag hc => cases h; simp [scan, hc]
  | case3 f tag hc ih => rw [scan, if_neg hc]; split <;> exact ih _ _ h

omit [LT α] [DecidableLT α] in
/-- every window of `P` consecutive days shows every value of a `P`-periodic day length -/
theorem periodic_window {dl : Nat → α} {P : Nat} (hP : 0 < P) (hper : ∀ t, 1 ≤ t → dl (t + P) = dl t)
    (tag t : Nat) (ht : 1 ≤ t) : ∃ u, tag < u ∧ u ≤ tag + P ∧ dl u = dl t := by
  induction tag with
  | zero =>
    -- whole periods are taken off `t` until it lies in the first one
    induction t using Nat.strongRecOn with | _ t ih =>
    by_cases h : t ≤ P
    · exact ⟨t, by omega, by omega, rfl⟩
    · obtain ⟨u, h1, h2, h3⟩ := ih (t - P) (by omega) (by omega)
      refine ⟨u, h1, h2, ?_⟩
      rw [h3, ← hper (t - P) (by omega), Nat.sub_add_cancel (by omega)]
  | succ tag ih =>
    -- the window moves on by a day: the day that drops out comes back one period later
    obtain ⟨u, h1, h2, h3⟩ := ih
    by_cases h : u = tag + 1
    · exact ⟨u + P, by omega, by omega, by rw [hper u (by omega), h3]⟩
    · exact ⟨u, by omega, by omega, h3⟩

omit [DecidableLT α] in
theorem periodic_exists_iff {dl : Nat → α} {thr : α} {P : Nat} (hP : 0 < P)
    (hper : ∀ t, 1 ≤ t → dl (t + P) = dl t) (tag : Nat) :
    (∃ t, tag < t ∧ thr < dl t) ↔ ∃ t, 1 ≤ t ∧ t ≤ P ∧ thr < dl t := by
  constructor
  · rintro ⟨t, h1, h2⟩
    obtain ⟨u, hu1, hu2, hu⟩ := periodic_window hP hper 0 t (by omega)
    exact ⟨u, hu1, by omega, hu ▸ h2⟩
  · rintro ⟨t, h1, _, h3⟩
    obtain ⟨u, hu1, _, hu⟩ := periodic_window hP hper tag t h1
    exact ⟨u, hu1, hu ▸ h3⟩

omit [LT α] [DecidableLT α] in
theorem periodic_period (seq : List α) (dflt : α) (t : Nat) (h1 : 1 ≤ t) :
    periodic seq dflt (t + seq.length) = periodic seq dflt t := by
  unfold periodic
  have : (t + seq.length - 1) = (t - 1) + seq.length := by omega
  rw [this, Nat.add_mod_right]

/-- `scan` over the list of the day lengths of its window instead of a function of the day: what a concrete
table is evaluated on (no indexing, no `mod`) -/
def scanL (thr : α) : List α → Nat → α → Nat → Nat
  | [], _, _, longestDay => longestDay
  | x :: xs, tag, longest, longestDay =>
    if thr < x then tag
    else if longest < x then scanL thr xs (tag + 1) x tag
    else scanL thr xs (tag + 1) longest longestDay

theorem scan_eq_scanL (dl : Nat → α) (thr : α) : ∀ fuel tag longest ld,
    scan dl thr fuel tag longest ld = scanL thr ((List.range' tag fuel).map dl) tag longest ld
  | 0, _, _, _ => rfl
  | fuel + 1, tag, longest, ld => by
    simp only [scan, List.range'_succ, List.map_cons, scanL, scan_eq_scanL dl thr fuel]

omit [LT α] [DecidableLT α] in
theorem map_periodic_range' (seq : List α) (dflt : α) (k : Nat) (hk : k ≤ seq.length) :
    (List.range' (k + 1) seq.length).map (periodic seq dflt) = seq.drop k ++ seq.take k := by
  apply List.ext_getElem (by simp; omega)
  intro j hj _
  rw [List.length_map, List.length_range'] at hj
  simp only [List.getElem_map, List.getElem_range', Nat.one_mul, periodic, List.getElem_append, List.length_drop,
    List.getElem_drop, List.getElem_take]
  rw [Nat.add_right_comm, Nat.add_sub_cancel]
  have gd : ∀ i (h : i < seq.length), seq.getD i dflt = seq[i] := fun i h => by
    rw [List.getD_eq_getElem?_getD, List.getElem?_eq_getElem h]; rfl
  -- day `k + 1 + j` is entry `k + j` of the list, or has wrapped round to entry `k + j - |seq|`
  by_cases c : k + j < seq.length
  · rw [Nat.mod_eq_of_lt c, dif_pos (by omega)]
    exact gd _ c
  · rw [Nat.mod_eq_sub_mod (by omega), Nat.mod_eq_of_lt (by omega), dif_neg (by omega), gd _ (by omega)]
    congr 1; omega

omit [LT α] [DecidableLT α] in
theorem periodic_mem (seq : List α) (dflt : α) (t : Nat) (h : seq ≠ []) : periodic seq dflt t ∈ seq := by
  have hlt : (t - 1) % seq.length < seq.length := Nat.mod_lt _ (List.length_pos_iff.mpr h)
  unfold periodic
  rw [List.getD_eq_getElem?_getD, List.getElem?_eq_getElem hlt]
  exact List.getElem_mem hlt

theorem dl45_length : dl45.length = 365 := by decide +kernel

end Hermes.LangTag

namespace Hermes.RunLoop

variable {σ ε : Type}

theorem loop_terminates (body : σ → Nat → Nat → Except ε (σ × Nat)) (dt B : Nat) (hdt : 1 ≤ dt)
    (hB : ∀ s z e s' e', body s z e = .ok (s', e') → e' ≤ B) (fuel zeit ende : Nat) (s : σ)
    (he : ende ≤ B) (hf : B + 1 - zeit < fuel) : loop body dt fuel zeit ende s ≠ none := by
  fun_induction loop body dt fuel zeit ende s with
  | case1 => omega
  | case2 | case3 | case4 => simp  -- the loop is left: past `ENDE`, by an error of the body, by the `break`
  | case5 f zeit ende s hz s' e' hb heq ih => exact ih (hB s zeit ende s' e' hb) (by omega)

end Hermes.RunLoop
