/-
The harvest model (HermesModel/Harvest.lean) over ℚ: the two pool updates cell by cell and in sum, the split of
`resid`, closed forms of the residues of a non-permanent crop.
-/
import HermesProofs.RatInst
import HermesProofs.Ite
import HermesProofs.SumFrom
import HermesModel.Harvest
import Mathlib.Tactic.Linarith
import Mathlib.Tactic.Ring
import Mathlib.Tactic.FieldSimp
import Mathlib.Tactic.NormNum

namespace Hermes.Harvest

theorem isEq_iff (x c : ℚ) : isEq x c = true ↔ x = c := by
  simp only [isEq, Bool.and_eq_true, Bool.not_eq_true', decide_eq_false_iff_not, not_lt]
  exact and_comm.trans le_antisymm_iff.symm

theorem isEq_false_iff (x c : ℚ) : isEq x c = false ↔ x ≠ c := by
  rw [← Bool.not_eq_true, isEq_iff]

theorem clamp0_eq_max (x : ℚ) : clamp0 x = max x 0 := (max_def_lt x 0).symm

theorem fmax_eq_max (a b : ℚ) : fmax a b = max a b := (max_def_lt a b).symm

theorem clamp0_nonneg (x : ℚ) : 0 ≤ clamp0 x := by
  rw [clamp0_eq_max]; exact le_max_right _ _

theorem clamp0_of_nonneg {x : ℚ} (h : 0 ≤ x) : clamp0 x = x := by
  rw [clamp0_eq_max]; exact max_eq_left h

theorem clamp0_ge (x : ℚ) : x ≤ clamp0 x := by
  rw [clamp0_eq_max]; exact le_max_left _ _

theorem fmax_ge_left (a b : ℚ) : a ≤ fmax a b := by
  rw [fmax_eq_max]; exact le_max_left _ _

theorem addTop_ite (c : Prop) [Decidable c] (x : ℚ) (l : List ℚ) :
    (if c then addTop x l else l) = addTop (if c then x else 0) l := by
  split
  · rfl
  · cases l <;> simp [addTop]

theorem addTop_sum (x : ℚ) (l : List ℚ) (h : l ≠ []) : (addTop x l).sum = l.sum + x := by
  cases l with
  | nil => exact absurd rfl h
  | cons p ps => simp [addTop]; ring

theorem addTop_length (x : ℚ) (l : List ℚ) : (addTop x l).length = l.length := by
  cases l <;> simp [addTop]

theorem addTop_ne_nil (x : ℚ) (l : List ℚ) (h : l ≠ []) : addTop x l ≠ [] := by
  cases l with
  | nil => exact absurd rfl h
  | cons p ps => simp [addTop]

theorem addTop_getD (x : ℚ) (l : List ℚ) (z : ℕ) :
    (addTop x l).getD z 0 = l.getD z 0 + if z = 0 ∧ l ≠ [] then x else 0 := by
  cases l with
  | nil => simp [addTop]
  | cons p ps => cases z <;> simp [addTop]

theorem addTop_getD_le {x : ℚ} (hx : 0 ≤ x) (l : List ℚ) (z : ℕ) : l.getD z 0 ≤ (addTop x l).getD z 0 := by
  rw [addTop_getD]; split <;> linarith

theorem addRoots_length (c : ℚ) (k : ℕ) (ws ps : List ℚ) : (addRoots c k ws ps).length = ps.length := by
  fun_induction addRoots c k ws ps <;> simp [*]

theorem addRoots_sum (c : ℚ) : ∀ (k : ℕ) (ws ps : List ℚ), ws.length ≤ ps.length →
    (addRoots c k ws ps).sum = ps.sum + c * (ws.take k).sum
  | 0, _, _, _ | _ + 1, [], _, _ => by simp [addRoots]
  | _ + 1, _ :: _, [], h => absurd h (by simp)
  | k + 1, w :: ws, p :: ps, h => by
    rw [addRoots, List.sum_cons, addRoots_sum c k ws ps (by simpa using h), List.take_succ_cons, List.sum_cons,
      List.sum_cons]
    ring

theorem addRoots_getD (c : ℚ) : ∀ (k : ℕ) (ws ps : List ℚ) (z : ℕ),
    (addRoots c k ws ps).getD z 0 = ps.getD z 0 + if z < k ∧ z < ps.length then c * ws.getD z 0 else 0
  | 0, _, _, _ | _ + 1, [], _, _ | _ + 1, _ :: _, [], _ | _ + 1, _ :: _, _ :: _, 0 => by simp [addRoots]
  | k + 1, _ :: ws, _ :: ps, z + 1 => by
    rw [addRoots, List.getD_cons_succ, List.getD_cons_succ, List.getD_cons_succ, addRoots_getD c k ws ps z,
      List.length_cons]
    simp only [Nat.add_lt_add_iff_right]

/-! One pool (NFOS or NAOS) over the harvest branch: `x` (residues above ground) to the top cell, `c · WUANT[z]` (root
residues) to the rooted cells, `y` (the dressing of the skipped-crop branch, else 0) to the top cell. -/

theorem pool_ne_nil (x c : ℚ) (k : ℕ) (ws l : List ℚ) (hl : l ≠ []) : addRoots c k ws (addTop x l) ≠ [] := by
  intro h
  have := congrArg List.length h
  rw [addRoots_length, addTop_length] at this
  exact hl (List.eq_nil_of_length_eq_zero this)

theorem pool_sum (y x c : ℚ) (k : ℕ) (ws l : List ℚ) (hl : l ≠ []) (hw : ws.length ≤ l.length) :
    (addTop y (addRoots c k ws (addTop x l))).sum = l.sum + x + c * (ws.take k).sum + y := by
  rw [addTop_sum _ _ (pool_ne_nil x c k ws l hl), addRoots_sum _ _ _ _ (by rw [addTop_length]; exact hw),
    addTop_sum _ _ hl]

theorem pool_getD_le {y x c : ℚ} (hy : 0 ≤ y) (hx : 0 ≤ x) (hc : 0 ≤ c) (k : ℕ) (ws l : List ℚ)
    (hw : ∀ w ∈ ws, 0 ≤ w) (z : ℕ) : l.getD z 0 ≤ (addTop y (addRoots c k ws (addTop x l))).getD z 0 := by
  have h1 := addTop_getD_le hx l z
  have h2 : (addTop x l).getD z 0 ≤ (addRoots c k ws (addTop x l)).getD z 0 := by
    rw [addRoots_getD]
    have := mul_nonneg hc (getD_of_all hw le_rfl z)
    split <;> linarith
  exact le_trans h1 (le_trans h2 (addTop_getD_le hy _ z))

theorem pool_getD_below (y x c : ℚ) (k : ℕ) (ws l : List ℚ) (z : ℕ) (hz : k ≤ z + 1) :
    (addTop y (addRoots c k ws (addTop x l))).getD (z + 1) 0 = l.getD (z + 1) 0 := by
  rw [addTop_getD, addRoots_getD, addTop_getD, if_neg (by omega), if_neg (by omega), if_neg (by omega)]
  simp

theorem resid_nresid (i : ResidIn ℚ) : (resid i).nresid = (resid i).dgm := rfl
theorem resid_nagb (i : ResidIn ℚ) : (resid i).nagb = i.pesum - i.pesum * i.row.nwura := rfl

/-- both residue amounts are split without remainder and are not negative -/
structure ResidSplit (r : Resid ℚ) : Prop where
  above : r.nsa + r.nla = r.nresid
  roots : r.nusa + r.nula = r.dgu
  ndi : r.ndi = 0
  above0 : 0 ≤ r.nresid
  roots0 : 0 ≤ r.dgu

theorem resid_split (i : ResidIn ℚ) : ResidSplit (resid i) := by
  refine ⟨?_, ?_, rfl, clamp0_nonneg _, clamp0_nonneg _⟩ <;> simp only [resid] <;> ring

theorem residOf_regular {i : In ℚ} (h : i.first = false) : residOf i = resid i.r := by
  unfold residOf; rw [h]; rfl

theorem residOf_split (i : In ℚ) : ResidSplit (residOf i) :=
  ite_of_both ResidSplit _ ⟨add_zero _, add_zero _, rfl, le_refl _, le_refl _⟩ (resid_split i.r)

theorem residOf_parts_nonneg (i : In ℚ) (hf0 : 0 ≤ i.r.row.nfast) (hf1 : i.r.row.nfast ≤ 1) :
    0 ≤ (residOf i).nsa ∧ 0 ≤ (residOf i).nla ∧ 0 ≤ (residOf i).nusa ∧ 0 ≤ (residOf i).nula := by
  unfold residOf
  split
  · simp [noResid]
  · obtain ⟨_, _, _, e, f⟩ := resid_split i.r
    have h1 : 0 ≤ 1 - i.r.row.nfast := by linarith
    simp only [resid] at e f ⊢
    exact ⟨mul_nonneg e hf0, mul_nonneg e h1, mul_nonneg f hf0, mul_nonneg f h1⟩

/-- the ranges of a row of CROP_N.TXT and of the crop N under which the closed forms hold -/
structure RowRange (p : ℚ) (t : CropNRow ℚ) : Prop where
  p0 : 0 ≤ p
  w0 : 0 ≤ t.nwura
  w1 : t.nwura ≤ 1
  ne0 : 0 ≤ t.nernt
  ks0 : 0 ≤ t.kostro
  nk0 : 0 ≤ t.nkopp
  den : 0 < t.nernt + t.kostro * t.nkopp

theorem annualDgm_closed (jn p : ℚ) (t : CropNRow ℚ) (hd : 0 < t.nernt + t.kostro * t.nkopp) :
    annualDgm jn p t = (1 - jn) * (p * (1 - t.nwura) * (t.kostro * t.nkopp / (t.nernt + t.kostro * t.nkopp))) := by
  unfold annualDgm
  have hd' : t.nernt + t.kostro * t.nkopp ≠ 0 := ne_of_gt hd
  field_simp
  ring

theorem annualDgm_nonneg (jn p : ℚ) (t : CropNRow ℚ) (r : RowRange p t) (hj : jn ≤ 1) : 0 ≤ annualDgm jn p t := by
  rw [annualDgm_closed jn p t r.den]
  exact mul_nonneg (sub_nonneg.2 hj) (mul_nonneg (mul_nonneg r.p0 (sub_nonneg.2 r.w1))
    (div_nonneg (mul_nonneg r.ks0 r.nk0) r.den.le))

/-- the three branches of nitro.go:900-936 agree for a non-permanent crop (`JN = 1` leaves `(1 − JN) · … = 0` above ground) -/
theorem rawDg_annual (i : ResidIn ℚ) (hk : i.dauerkult = false) (h2 : i.jn ≠ 2) :
    rawDg i = (annualDgm i.jn i.pesum i.row, i.pesum * i.row.nwura) := by
  simp only [rawDg, hk, Bool.false_eq_true, if_false, (isEq_false_iff _ _).mpr h2]
  cases h0 : isEq i.jn 0
  · cases h1 : isEq i.jn 1
    · rfl
    · simp only [if_true, if_false, Bool.false_eq_true]
      unfold annualDgm
      rw [(isEq_iff _ _).mp h1]; ring_nf
  · rfl

theorem resid_annual (i : ResidIn ℚ) (hk : i.dauerkult = false) (r : RowRange i.pesum i.row) (hj1 : i.jn ≤ 1) :
    (resid i).dgu = i.pesum * i.row.nwura ∧ (resid i).nresid = annualDgm i.jn i.pesum i.row := by
  simp only [resid, rawDg_annual i hk (by intro h; linarith)]
  exact ⟨clamp0_of_nonneg (mul_nonneg r.p0 r.w0), clamp0_of_nonneg (annualDgm_nonneg i.jn i.pesum i.row r hj1)⟩

theorem resid_whole_plant (i : ResidIn ℚ) (hj : i.jn = 2) (hp : 0 ≤ i.pesum) (w0 : 0 ≤ i.row.nwura) (w1 : i.row.nwura ≤ 1) :
    (resid i).dgu = i.pesum * i.row.nwura ∧ (resid i).nresid = i.pesum - i.pesum * i.row.nwura := by
  have e0 : isEq i.jn 0 = false := by rw [isEq_false_iff, hj]; norm_num
  have e1 : isEq i.jn 1 = false := by rw [isEq_false_iff, hj]; norm_num
  have e2 : isEq i.jn 2 = true := by rw [isEq_iff, hj]
  have hpw : 0 ≤ i.pesum * i.row.nwura := mul_nonneg hp w0
  have hpm : 0 ≤ i.pesum - i.pesum * i.row.nwura := sub_nonneg.mpr (mul_le_of_le_one_right hp w1)
  simp only [resid, rawDg, e0, e1, e2, if_true, if_false, Bool.false_eq_true]
  exact ⟨clamp0_of_nonneg hpw, clamp0_of_nonneg hpm⟩

theorem step_res (i : In ℚ) : (step i).res = residOf i := rfl

/-- with `if … else 0` inside `addTop` the pool lemmas apply without a split on the skipped-crop branch -/
theorem step_nfos (i : In ℚ) : (step i).nfos = addTop (if skipOf i then i.nsas else 0) (nfosAfterResidues i) :=
  addTop_ite _ _ _

theorem step_naos (i : In ℚ) : (step i).naos = addTop (if skipOf i then i.nlas else 0) (naosAfterResidues i) :=
  addTop_ite _ _ _

theorem step_dsumm (i : In ℚ) :
    (step i).dsumm = if skipOf i then i.dsumm + (residOf i).ndi + i.ndir else i.dsumm + (residOf i).ndi := rfl

theorem step_nuptake (i : In ℚ) : (step i).nuptake = i.r.pesum := rfl
theorem step_skipped (i : In ℚ) : (step i).skipped = skipOf i := rfl
theorem step_record (i : In ℚ) : (step i).record = (skipOf i || !i.first) := rfl
theorem step_akfInc (i : In ℚ) : (step i).akfInc = if skipOf i then 2 else 1 := rfl

theorem step_crop (i : In ℚ) :
    (step i).crop = finalReset i.nextPerennialCode (pinit i.r.dauerkult
      (afterCut i.r.dauerkult i.r.jn i.yifak i.r.gehob i.wugeh
        { i.crop with pesum := i.r.pesum - ((residOf i).nsa + (residOf i).nla + (residOf i).ndi), obmas := i.r.obmas })) := rfl

theorem step_recv_noskip (i : In ℚ) (h : skipOf i = false) :
    (step i).recv.nuptake = i.r.pesum ∧ (step i).recv.nagb = (residOf i).nagb ∧ (step i).recv.nresid = (residOf i).nresid := by
  simp only [step, h, Bool.false_eq_true, if_false, and_self]

theorem step_recv_skip (i : In ℚ) (h : skipOf i = true) :
    (step i).recv.orgN = i.nsas + i.nlas + i.ndir ∧ (step i).recv.nuptake = 0 := by
  simp only [step, h, if_true, and_self]

/-- the arrays of the Go code: `NFOS`, `NAOS` with 21 cells, `WUANT` with 20 -/
structure Arrays (i : In ℚ) : Prop where
  nfos : i.nfos.length = 21
  naos : i.naos.length = 21
  wuant : i.wuant.length = 20

/-- Σ WUANT[0..WURZ): the share of the root residues that reaches a layer -/
def rootShare (i : In ℚ) : ℚ := (i.wuant.take i.crop.wurz).sum

theorem Arrays.nfos_ne_nil {i : In ℚ} (A : Arrays i) : i.nfos ≠ [] :=
  List.ne_nil_of_length_pos (by rw [A.nfos]; norm_num)
theorem Arrays.naos_ne_nil {i : In ℚ} (A : Arrays i) : i.naos ≠ [] :=
  List.ne_nil_of_length_pos (by rw [A.naos]; norm_num)

end Hermes.Harvest
