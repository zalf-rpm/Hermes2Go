/-
The groundwater model of C20 (HermesModel/GroundWater.lean): the level on a date between two parts of a strictly
ascending series (`getLevel_split`), the interpolation formula over ℚ as a convex combination, the sinusoid over ℝ.
-/
import HermesModel.GroundWater
import HermesProofs.PlantArith
import Mathlib.Tactic.Linarith
import Mathlib.Tactic.Ring
import Mathlib.Tactic.FieldSimp
import Mathlib.Analysis.SpecialFunctions.Trigonometric.Basic

namespace Hermes.GroundWater

noncomputable instance : IntConv ℝ where
  ofInt i := (i : ℝ)

instance : IntConv ℚ where
  ofInt i := (i : ℚ)

section series
variable {α : Type}

/-- the day numbers of the records, in file order (`GWTimestamps`) -/
def days (s : List (Nat × α)) : List Nat := s.map (·.1)

def Ascending (s : List (Nat × α)) : Prop := (days s).Pairwise (· < ·)

/-- every date is a day number (≥ 1) -/
def PositiveDays (s : List (Nat × α)) : Prop := ∀ d ∈ days s, 0 < d

theorem mapGet_none (s : List (Nat × α)) (date : Nat) (h : date ∉ days s) : mapGet s date = none := by
  induction s with
  | nil => rfl
  | cons e r ih =>
    rw [days, List.map_cons, List.mem_cons, not_or] at h
    rw [mapGet, ih h.2, if_neg (Ne.symm h.1)]

theorem mapGet_of_mem (s : List (Nat × α)) (hs : Ascending s) (d : Nat) (v : α) (hm : (d, v) ∈ s) :
    mapGet s d = some v := by
  induction s with
  | nil => cases hm
  | cons e r ih =>
    obtain ⟨hlt, hr⟩ := List.pairwise_cons.mp hs
    rw [mapGet]
    rcases List.mem_cons.mp hm with rfl | h
    · rw [mapGet_none r d (fun hmem => Nat.lt_irrefl _ (hlt d hmem)), if_pos rfl]
    · rw [ih hr h]

theorem neighbours_append_lt (date : Nat) (pre post : List Nat) (prev : Nat)
    (h : ∀ d ∈ pre, d < date) :
    neighbours date (pre ++ post) prev = neighbours date post (pre.getLastD prev) := by
  induction pre generalizing prev with
  | nil => rfl
  | cons d ds ih =>
    have hd : d < date := h d (List.mem_cons_self ..)
    have := ih d (fun x hx => h x (List.mem_cons_of_mem _ hx))
    simp only [List.cons_append, neighbours, hd, if_true, this]
    cases ds <;> simp [List.getLastD]

theorem neighbours_gt (date n : Nat) (post : List Nat) (prev : Nat) (h : date < n) :
    neighbours date (n :: post) prev = (prev, n) := by
  have : ¬ n < date := by omega
  simp [neighbours, this, h]

theorem neighbours_split (date : Nat) (pre post : List Nat) (hpre : ∀ d ∈ pre, d < date)
    (hpost : ∀ d ∈ post, date < d) :
    neighbours date (pre ++ post) 0 = (pre.getLastD 0, post.headD 0) := by
  rw [neighbours_append_lt date pre post 0 hpre]
  cases post with
  | nil => rfl
  | cons n rest => exact neighbours_gt date n rest _ (hpost n List.mem_cons_self)

theorem days_append (a b : List (Nat × α)) : days (a ++ b) = days a ++ days b := List.map_append

theorem Ascending.around {pre post : List (Nat × α)} {x : Nat × α} (hs : Ascending (pre ++ x :: post)) :
    (∀ d ∈ days pre, d < x.1) ∧ (∀ d ∈ days post, x.1 < d) := by
  unfold Ascending at hs
  rw [days_append, List.pairwise_append] at hs
  obtain ⟨_, h2, h3⟩ := hs
  have e : days (x :: post) = x.1 :: days post := rfl
  rw [e, List.pairwise_cons] at h2
  exact ⟨fun d hd => h3 d hd x.1 (by rw [e]; exact List.mem_cons_self), h2.1⟩

end series

section split
variable {α : Type} [Add α] [Sub α] [Mul α] [Div α] [OfNat α 0] [Conv α]

/-- `GetGroundWaterLevel` on a date between the two parts of the series: the error, the nearest record, or the
interpolation of the two; 0 is the code's "no neighbour", hence the positive date of the last earlier record -/
theorem getLevel_split (s pre post : List (Nat × α)) (date : Nat) (hsp : s = pre ++ post) (hs : Ascending s)
    (hp : ∀ x ∈ pre.getLast?, 0 < x.1 ∧ x.1 < date) (hn : ∀ x ∈ post.head?, date < x.1) :
    getLevel s date =
      match pre.getLast?, post.head? with
      | none, none => none
      | none, some n => some n.2
      | some p, none => some p.2
      | some p, some n => some (interpolate p.1 n.1 date p.2 n.2) := by
  have hpre : ∀ d ∈ days pre, d < date := by
    cases hl : pre.getLast? with
    | none => rw [List.getLast?_eq_none_iff.mp hl]; intro d hd; cases hd
    | some x =>
      obtain ⟨pre', rfl⟩ := List.getLast?_eq_some_iff.mp hl
      have hx := (hp x hl).2
      have ha := (Ascending.around (x := x) (by rw [hsp, List.append_assoc] at hs; exact hs)).1
      intro d hd
      rw [days_append] at hd
      rcases List.mem_append.mp hd with h | h
      · exact lt_trans (ha d h) hx
      · rw [List.mem_singleton.mp h]; exact hx
  have hpost : ∀ d ∈ days post, date < d := by
    cases post with
    | nil => intro d hd; cases hd
    | cons x post' =>
      have hx := hn x rfl
      have ha := (Ascending.around (hsp ▸ hs)).2
      intro d hd
      rcases List.mem_cons.mp hd with h | h
      · rw [h]; exact hx
      · exact lt_trans hx (ha d h)
  have hmn : mapGet s date = none := by
    apply mapGet_none
    rw [hsp, days_append]
    intro hm
    rcases List.mem_append.mp hm with h | h
    · exact Nat.lt_irrefl _ (hpre date h)
    · exact Nat.lt_irrefl _ (hpost date h)
  have hnb : neighbours date (List.map (fun x => x.1) s) 0 = ((days pre).getLastD 0, (days post).headD 0) := by
    rw [hsp, List.map_append]; exact neighbours_split date _ _ hpre hpost
  have hmem : ∀ x, x ∈ pre.getLast? ∨ x ∈ post.head? → mapGet s x.1 = some x.2 := by
    intro x hx
    refine mapGet_of_mem s hs x.1 x.2 ?_
    rw [hsp]
    rcases hx with h | h
    · exact List.mem_append_left _ (List.mem_of_getLast? h)
    · exact List.mem_append_right _ (List.mem_of_head? h)
  cases hl : pre.getLast? with
  | none =>
    rw [List.getLast?_eq_none_iff.mp hl] at hnb
    cases post with
    | nil => simp [getLevel, hmn, hnb, days]
    | cons x post' =>
      have hn0 : x.1 ≠ 0 := by have := hn x rfl; omega
      simp [getLevel, hmn, hnb, days, hn0, hmem x (Or.inr rfl)]
  | some x =>
    obtain ⟨pre', rfl⟩ := List.getLast?_eq_some_iff.mp hl
    have hp0 : x.1 ≠ 0 := (hp x hl).1.ne'
    cases post with
    | nil => simp [getLevel, hmn, hnb, days, hp0, hmem x (Or.inl hl)]
    | cons y post' =>
      have hn0 : y.1 ≠ 0 := by have := hn y rfl; omega
      simp [getLevel, hmn, hnb, days, hp0, hn0, hmem x (Or.inl hl), hmem y (Or.inr rfl)]

end split


theorem interpolate_eq (p n date : Nat) (vp vn : ℚ) (h1 : p ≤ date) (h2 : p < n) :
    interpolate p n date vp vn = vp + (vn - vp) * (((date : ℚ) - p) / ((n : ℚ) - p)) := by
  have hpos : (n : ℚ) - p ≠ 0 := sub_ne_zero.2 (Nat.cast_lt.2 h2).ne'
  show (vn - vp) / ((n - p : ℕ) : ℚ) * ((date - p : ℕ) : ℚ) + vp = _
  rw [Nat.cast_sub h2.le, Nat.cast_sub h1]
  field_simp
  ring

theorem interpolate_convex (p n date : Nat) (h1 : p < date) (h2 : date < n) :
    ∃ w : ℚ, 0 < w ∧ w < 1 ∧ ∀ vp vn : ℚ, interpolate p n date vp vn = (1 - w) * vp + w * vn := by
  have a : (p : ℚ) < date := Nat.cast_lt.2 h1
  have b : (date : ℚ) < n := Nat.cast_lt.2 h2
  have hpos := sub_pos.2 (a.trans b)
  exact ⟨_, div_pos (sub_pos.2 a) hpos, (div_lt_one hpos).2 (sub_lt_sub_right b _),
    fun vp vn => by rw [interpolate_eq p n date vp vn h1.le (h1.trans h2)]; ring⟩

theorem gwMean_real (grhi grlo : Int) : (gwMean grhi grlo : ℝ) = ((grhi : ℝ) + grlo) / 2 := by
  show ((grlo + grhi : Int) : ℝ) / 2 = _
  push_cast; ring

theorem gwAmpl_real (grhi grlo : Int) : (gwAmpl grhi grlo : ℝ) = ((grlo : ℝ) - grhi) / 2 := by
  show ((grlo - grhi : Int) : ℝ) / 2 = _
  push_cast; ring

end Hermes.GroundWater
