/-
Whatever the explicit transport step of `nmove` produced, its last loop (nitro.go:850) adds half of the source term and clamps every
layer of the profile at 0, and the crediting statement behind it does not touch C1.  Here that loop as an equation: one layer written
per iteration, from values of the start, each ≥ 0; the whole call is `C07_source_nmove_mineral_n_nonneg` (HermesProps/C07Source.lean).
-/
import HermesProofs.ImpNmoveCredit
import HermesModel.Nitro

namespace Hermes.Generated.Imp.nmove
open Hermes.Imp

variable (m : MathFns ℚ)

/-- what the last loop leaves in layer `z`: the layer plus half of its source term, clamped at 0 as in the model -/
def clampC1 (t : St ℚ) (z : Int) : ℚ := Nitro.clamp0 (rd t.g_C1 z + rd t.g_DN z * t.p_wdt / 2.0)

theorem top10_eq_fill (t : St ℚ) (hN : t.g_N.toNat ≤ t.g_C1.length) :
    top10 m t = { t with g_C1 := fill t.g_C1 0 (clampC1 t) t.g_N.toNat } := by
  unfold top10
  refine loopUp_noBrk_eq (loop5 m) 0 t.g_N _ (by omega) (fun k => { t with g_C1 := fill t.g_C1 0 (clampC1 t) k }) (fun k hk => ?_)
  unfold loop5
  dsimp only
  rw [rd_fill_next, rd_wr_same _ _ _ (by omega) (by rw [length_fill]; omega), fill, clampC1, Nitro.clamp0, lit0]
  split_ifs
  · rw [wr_wr_same]
  · rfl

end Hermes.Generated.Imp.nmove
