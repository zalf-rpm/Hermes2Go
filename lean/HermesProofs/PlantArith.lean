/-
Arithmetic about variables, free of model terms: the segments of piecewise linear tables, a quadratic, fractions and
convex combinations, the two recurring terms of the photosynthesis formulas.
-/
import HermesProofs.RatInst
import HermesProofs.Ite
import Mathlib.Tactic.Linarith
import Mathlib.Tactic.Positivity

namespace Hermes

theorem seg_mono {s w u v : ℚ} (hw : 0 < w) (hs : 0 ≤ s) (h : u ≤ v) : s * u / w ≤ s * v / w :=
  div_le_div_of_nonneg_right (mul_le_mul_of_nonneg_left h hs) hw.le

/-- the rising segments of TRRED and WUEFF -/
theorem seg_le {x a b w y s t : ℚ} (hw : 0 < w) (hs : 0 ≤ s) (hx : x ≤ b) (ht : y + s * (b - a) / w ≤ t) :
    y + s * (x - a) / w ≤ t :=
  (add_le_add_right (seg_mono hw hs (sub_le_sub_right hx a)) y).trans ht

/-- the falling segments of the vernalisation effectiveness -/
theorem le_seg {x a b w y s t : ℚ} (hw : 0 < w) (hs : 0 ≤ s) (hx : x ≤ b) (ht : t ≤ y - s * (b - a) / w) :
    t ≤ y - s * (x - a) / w :=
  ht.trans (sub_le_sub_left (seg_mono hw hs (sub_le_sub_right hx a)) y)

/-- the segments of REDEV, written from their right end -/
theorem seg_top_range {p a b w y s lo hi : ℚ} (hw : 0 < w) (hs : 0 ≤ s) (ha : a ≤ p) (hb : p ≤ b)
    (hlo : lo ≤ y - s * (b - a) / w) (hhi : y ≤ hi) : lo ≤ y - s * (b - p) / w ∧ y - s * (b - p) / w ≤ hi :=
  ⟨hlo.trans (sub_le_sub_left (seg_mono hw hs (sub_le_sub_left ha b)) y),
    (sub_le_self y (div_nonneg (mul_nonneg hs (sub_nonneg.2 hb)) hw.le)).trans hhi⟩

/-- the shape `a − c·(1 − t)²` of the N-content function of variant 2 (`nfn`), `t` a value of `exp` in (0, 1] -/
theorem quad_pos {a c t : ℚ} (hc : 0 ≤ c) (hca : c < a) (h0 : 0 < t) (h1 : t ≤ 1) :
    0 < a - c * ((1 - t) * (1 - t)) :=
  have ht : 1 - t ≤ 1 := sub_le_self 1 h0.le
  sub_pos.2 ((mul_le_of_le_one_right hc (mul_le_one₀ ht (sub_nonneg.2 h1) ht)).trans_lt hca)

/-- the denominators `KCo1 + c − coco` of the CO2 response in `stomat` -/
theorem add_sub_pos {k x c : ℚ} (hk : 0 < k) (hc : c < x) : 0 < k + x - c :=
  add_sub_assoc k x c ▸ add_pos hk (sub_pos.2 hc)

theorem frac_between {f x : ℚ} (f0 : 0 ≤ f) (f1 : f ≤ 1) (hx : 0 ≤ x) : 0 ≤ f * x ∧ f * x ≤ x :=
  ⟨mul_nonneg f0 hx, mul_le_of_le_one_left hx f1⟩

/-- a convex combination lies between its ends (over any ordered field: C20 uses it over ℝ) -/
theorem combo_between {K : Type} [Field K] [LinearOrder K] [IsStrictOrderedRing K] {w : K} (w0 : 0 ≤ w) (w1 : w ≤ 1)
    (a b : K) : min a b ≤ (1 - w) * a + w * b ∧ (1 - w) * a + w * b ≤ max a b := by
  have u := sub_nonneg.2 w1
  constructor
  · linarith [mul_le_mul_of_nonneg_left (min_le_left a b) u, mul_le_mul_of_nonneg_left (min_le_right a b) w0]
  · linarith [mul_le_mul_of_nonneg_left (le_max_left a b) u, mul_le_mul_of_nonneg_left (le_max_right a b) w0]

theorem mix_between {w p f : ℚ} (hw : w ≤ p) (f0 : 0 ≤ f) (f1 : f ≤ 1) : w ≤ (1 - f) * p + w * f ∧ (1 - f) * p + w * f ≤ p := by
  have h := combo_between f0 f1 p w
  rwa [min_eq_right hw, max_eq_left hw, mul_comm f w] at h

theorem convex_ge_min {a b f : ℚ} (h0 : 0 ≤ f) (h1 : f ≤ 1) : min a b ≤ f * b + (1 - f) * a :=
  add_comm (f * b) _ ▸ (combo_between h0 h1 a b).1

theorem convex_nonneg {a b f : ℚ} (ha : 0 ≤ a) (hb : 0 ≤ b) (h0 : 0 ≤ f) (h1 : f ≤ 1) : 0 ≤ f * b + (1 - f) * a :=
  le_trans (le_min ha hb) (convex_ge_min h0 h1)

theorem convex_pos {a b f : ℚ} (ha : 0 < a) (hb : 0 < b) (h0 : 0 ≤ f) (h1 : f ≤ 1) : 0 < f * b + (1 - f) * a :=
  lt_of_lt_of_le (lt_min ha hb) (convex_ge_min h0 h1)

/-- the radiation term of the photosynthesis formulas (`stomat`, water.go; `radia`, crop.go); 1 + it is the argument of
their logarithms -/
theorem lightArg_nonneg {c drc dle effe q amax : ℚ} (hc : 0 ≤ c) (hdrc : 0 ≤ drc) (hdle : 0 < dle) (he : 0 ≤ effe)
    (hq : 0 < q) (ha : 0 < amax) : 0 ≤ c * drc / (dle * 3600.0) * effe / (q * amax) := by
  positivity

/-- the canopy closure of the same formulas -/
theorem closure_nonneg {q amax dle x : ℚ} (hq : 0 ≤ q) (ha : 0 ≤ amax) (hd : 0 ≤ dle) (hx : 0 ≤ x) :
    0 ≤ q * amax * dle * x / (1 + x) := by
  positivity

end Hermes
