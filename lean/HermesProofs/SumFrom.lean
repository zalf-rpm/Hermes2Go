/-
Lists of ℚ read the way the Go loops read their arrays: `sumFrom` (HermesModel/Num.lean), the left-to-right
sum, is the library sum; what holds of all entries and of the default holds of all cells `getD z d`, and what holds
of all cells holds of all entries.
-/
import HermesProofs.RatInst
import Mathlib.Algebra.BigOperators.Group.List.Basic
namespace Hermes

theorem sumFrom_eq (z : ℚ) (l : List ℚ) : sumFrom z l = z + l.sum := by
  induction l generalizing z with
  | nil => simp [sumFrom]
  | cons x xs ih => rw [sumFrom, ih, List.sum_cons, add_assoc]

theorem getD_of_all {β : Type} {P : β → Prop} {l : List β} {d : β} (h : ∀ y ∈ l, P y) (hd : P d) (k : ℕ) :
    P (l.getD k d) := by
  rw [List.getD_eq_getElem?_getD]
  cases hk : l[k]? with
  | none => exact hd
  | some y => exact h y (List.mem_of_getElem? hk)

theorem all_of_getD {β : Type} {P : β → Prop} {l : List β} {d : β} (h : ∀ k, P (l.getD k d)) : ∀ y ∈ l, P y := by
  intro y hy
  obtain ⟨k, hk, rfl⟩ := List.mem_iff_getElem.mp hy
  have := h k
  rwa [List.getD_eq_getElem?_getD, List.getElem?_eq_getElem hk] at this

theorem forall₂_getD_append {β γ : Type} {R : β → γ → Prop} {l₁ : List β} {l₂ : List γ}
    (h : List.Forall₂ R l₁ l₂) (r₁ : List β) (r₂ : List γ) (d₁ : β) (d₂ : γ) {i : ℕ} (hi : i < l₂.length) :
    R ((l₁ ++ r₁).getD i d₁) ((l₂ ++ r₂).getD i d₂) := by
  induction h generalizing i with
  | nil => exact absurd hi (Nat.not_lt_zero i)
  | cons hab _ ih =>
    cases i with
    | zero => exact hab
    | succ j => exact ih (Nat.lt_of_succ_lt_succ hi)

end Hermes
