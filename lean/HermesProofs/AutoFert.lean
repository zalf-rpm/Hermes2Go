/-
The automatic-fertilisation branch (HermesModel/AutoFert.lean) over ℚ: which applications a call makes (`flag`), and
how often each kind is made over the days of a rotation entry, counted by an invariant of the run. The counting uses
no arithmetic of ℚ; it is stated over ℚ because that instance of the model is what the theorems of C16 speak about.
-/
import HermesModel.AutoFert
import HermesProofs.Rotation
import HermesProofs.SumFrom
import Mathlib.Tactic.Linarith
import Mathlib.Algebra.Order.BigOperators.Group.List

namespace Hermes.AutoFert
open Hermes.Rotation (autoN)

theorem nminTop_nonneg (k : Nat) (c : ℚ) (rest : List ℚ) (hc : 0 ≤ c) (hr : ∀ x ∈ rest, 0 ≤ x) :
    0 ≤ nminTop k c rest := by
  rw [nminTop, sumFrom_eq, zero_add]
  refine List.sum_nonneg fun x hx => ?_
  rcases List.mem_cons.mp (List.mem_of_mem_take hx) with h | h
  · rw [h]; exact hc
  · exact hr x h

theorem clamp0_eq_max (x : ℚ) : clamp0 x = max x 0 := (max_def_lt x 0).symm

theorem c10S_nonneg (i : In ℚ) (b : Bool) (c : ℚ) (h : 0 ≤ c) : 0 ≤ c10S i b c := by
  unfold c10S; split
  · rw [clamp0_eq_max]; exact le_max_right _ _
  · exact h

theorem c10After_nonneg (i : In ℚ) (s : St ℚ) (h : 0 ≤ s.c10) : 0 ≤ c10After i s := c10S_nonneg i _ _ h

theorem addIf_ge (b : Bool) (x y : ℚ) (h : 0 ≤ y) : x ≤ addIf b x y := by
  unfold addIf; split <;> linarith

theorem addIf_eq (b : Bool) (x y : ℚ) : addIf b x y = x + (if b then y else 0) := by
  unfold addIf; split <;> simp

/-- the trigger of each kind of application in one call -/
def flag (k : Kind) (i : In ℚ) (s : St ℚ) : Bool :=
  match k with
  | .orgH => trigH i
  | .orgS => firesS i s
  | .min1 => sown i && fire1 i s.ndoy1
  | .min2 => sown i && fireK i s.ndoy2
  | .min3 => sown i && fireK i s.ndoy3

theorem mem_opt {β : Type} (b : Bool) (x a : β) : a ∈ opt b x ↔ b = true ∧ a = x := by
  unfold opt; cases b <;> simp

theorem filter_opt {β : Type} (p : β → Bool) (b : Bool) (a : β) : (opt b a).filter p = opt (b && p a) a := by
  cases b <;> cases h : p a <;> simp [opt, h]

theorem sum_map_opt {β : Type} (f : β → ℚ) (b : Bool) (a : β) : ((opt b a).map f).sum = if b then f a else 0 := by
  cases b <;> simp [opt]

/-- the application of kind `k`, made by a call iff `flag k` holds: the records `step` builds, written once more
(`step_apps` holds by `rfl`) -/
def app (i : In ℚ) (s : St ℚ) : Kind → App ℚ
  | .orgH => ⟨.orgH, i.prev.ndir, i.prev.nsas, i.prev.nlas, i.prev.dgart⟩
  | .orgS => ⟨.orgS, i.cur.ndir, i.cur.nsas, i.cur.nlas, i.cur.dgart⟩
  | .min1 => ⟨.min1, dose1 i s, 0, 0, dungAfter i s⟩
  | .min2 => ⟨.min2, dose2 i s, 0, 0, dungAfter i s⟩
  | .min3 => ⟨.min3, dose3 i s, 0, 0, dungAfter i s⟩

theorem app_kind (i : In ℚ) (s : St ℚ) (k : Kind) : (app i s k).kind = k := by cases k <;> rfl

theorem step_apps (i : In ℚ) (s : St ℚ) :
    (step i s).2 = opt (flag .orgH i s) (app i s .orgH) ++ opt (flag .orgS i s) (app i s .orgS) ++
      opt (flag .min1 i s) (app i s .min1) ++ opt (flag .min2 i s) (app i s .min2) ++
      opt (flag .min3 i s) (app i s .min3) := rfl

theorem mem_step (i : In ℚ) (s : St ℚ) (a : App ℚ) :
    a ∈ (step i s).2 ↔ flag a.kind i s = true ∧ a = app i s a.kind := by
  simp only [step_apps, List.mem_append, mem_opt]
  constructor
  · rintro ((((⟨h, rfl⟩ | ⟨h, rfl⟩) | ⟨h, rfl⟩) | ⟨h, rfl⟩) | ⟨h, rfl⟩) <;> exact ⟨h, rfl⟩
  · rintro ⟨h, e⟩
    generalize a.kind = k at h e
    subst e
    cases k <;> simp [h]

theorem fired_append (k : Kind) (a b : List (Nat × App ℚ)) : fired k (a ++ b) = fired k a + fired k b := by
  simp [fired, List.countP_append]

theorem fired_opt (k : Kind) (z : Nat) (b : Bool) (a : App ℚ) :
    fired k ((opt b a).map fun a => (z, a)) = (b && decide (a.kind = k)).toNat := by
  cases b <;> simp [fired, opt, Bool.toNat]

theorem fired_map_step (k : Kind) (z : Nat) (i : In ℚ) (s : St ℚ) :
    fired k ((step i s).2.map (fun a => (z, a))) = (flag k i s).toNat := by
  simp only [step_apps, List.map_append, fired_append, fired_opt, app_kind]
  cases k <;> simp

theorem fired_run_cons (k : Kind) (zeit : Nat) (d : In ℚ) (ds : List (In ℚ)) (s : St ℚ) :
    fired k (run zeit (d :: ds) s).2 =
      (flag k { d with zeit := zeit } s).toNat + fired k (run (zeit + 1) ds (step { d with zeit := zeit } s).1).2 := by
  simp only [run, fired_append, fired_map_step]

@[simp] theorem fired_run_nil (k : Kind) (zeit : Nat) (s : St ℚ) : fired k (run zeit ([] : List (In ℚ)) s).2 = 0 := by
  simp [run, fired]

theorem step_ndoy1 (i : In ℚ) (s : St ℚ) :
    (step i s).1.ndoy1 = if flag .min1 i s then rearm1 s.ndoy1 else s.ndoy1 := rfl

theorem step_ndoy2 (i : In ℚ) (s : St ℚ) :
    (step i s).1.ndoy2 = if flag .min2 i s then rearmK s.ndoy2 else s.ndoy2 := rfl

theorem step_ndoy3 (i : In ℚ) (s : St ℚ) :
    (step i s).1.ndoy3 = if flag .min3 i s then rearmK s.ndoy3 else s.ndoy3 := rfl

theorem step_ztdg (i : In ℚ) (s : St ℚ) :
    (step i s).1.ztdg = if sown i then ztdgS i s.ztdg else s.ztdg := rfl

theorem sown_iff (i : In ℚ) : sown i = true ↔ 0 < i.saat ∧ i.saat ≤ i.zeit := by simp [sown]

/-- `Stable sa ds`: once the sowing day is known (`sa > 0`) every later day of the entry sees the same one
(the sowing block of run.go only writes `SAAT[AKF]` while it is 0) -/
def Stable : Nat → List (In ℚ) → Prop
  | _, [] => True
  | sa, d :: ds => (0 < sa → d.saat = sa) ∧ Stable d.saat ds

/-- the day of the year goes up by one from day to day (no turn of the year inside the list) -/
def TagsAscend : Nat → List (In ℚ) → Prop
  | _, [] => True
  | t, d :: ds => d.tag = t ∧ TagsAscend (t + 1) ds

/-- the sowing day of the entry lies behind day `zeit`, and stays where it is -/
def Behind (zeit : Nat) (ds : List (In ℚ)) : Prop := ∃ sa, 0 < sa ∧ sa < zeit ∧ Stable sa ds

theorem Behind.cons {zeit : Nat} {d : In ℚ} {ds : List (In ℚ)} (h : Behind zeit (d :: ds)) :
    0 < d.saat ∧ d.saat < zeit ∧ Behind (zeit + 1) ds := by
  obtain ⟨sa, h0, hlt, h1, h2⟩ := h
  cases h1 h0
  exact ⟨h0, hlt, d.saat, h0, Nat.lt_succ_of_lt hlt, h2⟩

theorem Behind.of_sown {zeit sa : Nat} {d : In ℚ} {ds : List (In ℚ)} (hg : sown { d with zeit := zeit } = true)
    (hst : Stable sa (d :: ds)) : Behind (zeit + 1) ds :=
  ⟨d.saat, ((sown_iff _).mp hg).1, Nat.lt_succ_of_le ((sown_iff _).mp hg).2, hst.2⟩

theorem fired_eq_zero (k : Kind) (I : Nat → List (In ℚ) → St ℚ → Prop)
    (h : ∀ zeit d ds s, I zeit (d :: ds) s →
      flag k { d with zeit := zeit } s = false ∧ I (zeit + 1) ds (step { d with zeit := zeit } s).1) :
    ∀ (ds : List (In ℚ)) (zeit : Nat) (s : St ℚ), I zeit ds s → fired k (run zeit ds s).2 = 0
  | [], _, _, _ => by simp
  | d :: ds, zeit, s, hI => by
    obtain ⟨hf, hI'⟩ := h zeit d ds s hI
    rw [fired_run_cons, hf, fired_eq_zero k I h ds _ _ hI']; rfl

/-- at most once: `I` is kept while the trigger is off, and behind the call that applies `k` is never applied again -/
theorem fired_le_one (k : Kind) (I : Nat → List (In ℚ) → St ℚ → Prop)
    (h : ∀ zeit d ds s, I zeit (d :: ds) s →
      (flag k { d with zeit := zeit } s = false → I (zeit + 1) ds (step { d with zeit := zeit } s).1) ∧
      (flag k { d with zeit := zeit } s = true → fired k (run (zeit + 1) ds (step { d with zeit := zeit } s).1).2 = 0)) :
    ∀ (ds : List (In ℚ)) (zeit : Nat) (s : St ℚ), I zeit ds s → fired k (run zeit ds s).2 ≤ 1
  | [], _, _, _ => by simp
  | d :: ds, zeit, s, hI => by
    rw [fired_run_cons]
    cases hf : flag k { d with zeit := zeit } s
    · simpa using fired_le_one k I h ds _ _ ((h zeit d ds s hI).1 hf)
    · rw [(h zeit d ds s hI).2 hf]; rfl

theorem fired_on_day (k : Kind) (z : Nat) (I : Nat → List (In ℚ) → St ℚ → Prop)
    (h : ∀ zeit d ds s, I zeit (d :: ds) s →
      flag k { d with zeit := zeit } s = decide (zeit = z) ∧ I (zeit + 1) ds (step { d with zeit := zeit } s).1) :
    ∀ (ds : List (In ℚ)) (zeit : Nat) (s : St ℚ), I zeit ds s →
      fired k (run zeit ds s).2 = if zeit ≤ z ∧ z < zeit + ds.length then 1 else 0
  | [], _, _, _ => by simp
  | d :: ds, zeit, s, hI => by
    obtain ⟨hf, hI'⟩ := h zeit d ds s hI
    rw [fired_run_cons, hf, fired_on_day k z I h ds _ _ hI', List.length_cons]
    by_cases hz : zeit = z
    · -- the day itself: counted by this call, out of the range of the rest
      rw [decide_eq_true hz, if_neg (by omega), if_pos (by omega)]; rfl
    · rw [decide_eq_false hz, Bool.toNat_false, Nat.zero_add]
      exact if_congr (by omega) rfl rfl

theorem dose1_after_sowing (ds : List (In ℚ)) (zeit : Nat) (s : St ℚ) (h0 : s.ndoy1 = 0) (hb : Behind zeit ds) :
    fired .min1 (run zeit ds s).2 = 0 := by
  refine fired_eq_zero .min1 (fun zeit ds s => s.ndoy1 = 0 ∧ Behind zeit ds) ?_ ds zeit s ⟨h0, hb⟩
  rintro zeit d ds s ⟨h0, hb⟩
  obtain ⟨-, hlt, hb'⟩ := hb.cons
  have hf : flag .min1 { d with zeit := zeit } s = false := by
    have hne : ¬ zeit = d.saat := by omega
    simp [flag, fire1, h0, hne]
  refine ⟨hf, ?_, hb'⟩
  rw [step_ndoy1, hf]; exact h0

theorem dose1_spent (ds : List (In ℚ)) (zeit : Nat) (s : St ℚ) (h : 365 ≤ s.ndoy1) :
    fired .min1 (run zeit ds s).2 = 0 := by
  refine fired_eq_zero .min1 (fun _ _ s => 365 ≤ s.ndoy1) ?_ ds zeit s h
  intro zeit d ds s h
  have h10 : ¬ s.ndoy1 < 10 := by omega
  have h365 : ¬ s.ndoy1 < 365 := by omega
  have hf : flag .min1 { d with zeit := zeit } s = false := by simp [flag, fire1, h10, h365]
  refine ⟨hf, ?_⟩
  rw [step_ndoy1, hf]; exact h

/-- the part of the state and of the trigger that belongs to dose `k` (2 or 3) -/
structure DoseK where
  kind : Kind
  get : St ℚ → Nat
  hflag : ∀ i s, flag kind i s = (sown i && fireK i (get s))
  hstep : ∀ i s, get (step i s).1 = if flag kind i s then rearmK (get s) else get s

def doseK2 : DoseK := ⟨.min2, St.ndoy2, fun _ _ => rfl, step_ndoy2⟩
def doseK3 : DoseK := ⟨.min3, St.ndoy3, fun _ _ => rfl, step_ndoy3⟩

/-- `HasStage zeit ds`: on every day on which the entry is sown (`0 < SAAT ≤ day`) the crop has a development
stage — `PhytoOut`, called from the sowing day to the latest harvest date before `Nitro`, sets stage 1 (2 for a perennial
crop continued from the entry before) on the sowing day (crop.go:101, 94) and only raises it; the harvest step resets it together with the switch to the next entry -/
def HasStage : Nat → List (In ℚ) → Prop
  | _, [] => True
  | z, d :: ds => (0 < d.saat → d.saat ≤ z → d.intwick ≠ 0) ∧ HasStage (z + 1) ds

theorem doseK_spent (D : DoseK) (ds : List (In ℚ)) (zeit : Nat) (s : St ℚ)
    (h0 : D.get s = 0) (hi : HasStage zeit ds) : fired D.kind (run zeit ds s).2 = 0 := by
  refine fired_eq_zero D.kind (fun zeit ds s => D.get s = 0 ∧ HasStage zeit ds) ?_ ds zeit s ⟨h0, hi⟩
  rintro zeit d ds s ⟨h0, hd, hi'⟩
  have hf : flag D.kind { d with zeit := zeit } s = false := by
    rw [D.hflag, Bool.and_eq_false_iff, ← Bool.not_eq_true, sown_iff]
    by_cases hs : 0 < d.saat ∧ d.saat ≤ zeit
    · right; simp [fireK, h0, hd hs.1 hs.2]
    · left; exact hs
  refine ⟨hf, ?_, hi'⟩
  rw [D.hstep, hf]; exact h0

theorem doseK_stage_once (D : DoseK) (ds : List (In ℚ)) (zeit : Nat) (s : St ℚ)
    (h10 : D.get s < 10) (hi : HasStage zeit ds) : fired D.kind (run zeit ds s).2 ≤ 1 := by
  refine fired_le_one D.kind (fun zeit ds s => D.get s < 10 ∧ HasStage zeit ds) ?_ ds zeit s ⟨h10, hi⟩
  rintro zeit d ds s ⟨h10, -, hi'⟩
  refine ⟨fun hf => ⟨by rw [D.hstep, hf]; exact h10, hi'⟩, fun hf => doseK_spent D ds _ _ ?_ hi'⟩
  rw [D.hstep, hf]; simp [rearmK, h10]

theorem doseK_doy_day (D : DoseK) {i : In ℚ} {s : St ℚ} (h : flag D.kind i s = true) (h10 : 10 ≤ D.get s) :
    i.tag = D.get s ∧ 0 < i.saat ∧ i.saat ≤ i.zeit := by
  rw [D.hflag, Bool.and_eq_true, sown_iff, fireK, if_neg (by omega), decide_eq_true_eq] at h
  exact ⟨h.2, h.1⟩

theorem doseK_doy_passed (D : DoseK) (ds : List (In ℚ)) (zeit t : Nat) (s : St ℚ)
    (h10 : 10 ≤ D.get s) (hlt : D.get s < t) (hta : TagsAscend t ds) : fired D.kind (run zeit ds s).2 = 0 := by
  refine fired_eq_zero D.kind (fun _ ds s => 10 ≤ D.get s ∧ ∃ t, D.get s < t ∧ TagsAscend t ds) ?_ ds zeit s
    ⟨h10, t, hlt, hta⟩
  rintro zeit d ds s ⟨h10, t, hlt, ht, hta'⟩
  have h10' : ¬ D.get s < 10 := by omega
  have hne : ¬ d.tag = D.get s := by omega
  have hf : flag D.kind { d with zeit := zeit } s = false := by rw [D.hflag]; simp [fireK, h10', hne]
  have hn : D.get (step { d with zeit := zeit } s).1 = D.get s := by rw [D.hstep, hf]; rfl
  rw [hn]
  exact ⟨hf, h10, t + 1, by omega, hta'⟩

theorem doseK_doy_once (D : DoseK) (ds : List (In ℚ)) (zeit t : Nat) (s : St ℚ)
    (h10 : 10 ≤ D.get s) (hta : TagsAscend t ds) : fired D.kind (run zeit ds s).2 ≤ 1 := by
  refine fired_le_one D.kind (fun _ ds s => 10 ≤ D.get s ∧ ∃ t, TagsAscend t ds) ?_ ds zeit s ⟨h10, t, hta⟩
  rintro zeit d ds s ⟨h10, t, ht, hta'⟩
  have h10' : ¬ D.get s < 10 := by omega
  have hn : D.get (step { d with zeit := zeit } s).1 = D.get s := by rw [D.hstep, rearmK, if_neg h10', ite_self]
  refine ⟨fun _ => ⟨hn ▸ h10, t + 1, hta'⟩, fun hf => doseK_doy_passed D ds _ (t + 1) _ (hn ▸ h10) ?_ hta'⟩
  have htag : d.tag = D.get s := (doseK_doy_day D hf h10).1
  omega

/-- behind the sowing day the "S" application is waiting for the day `ZTDG`, which no longer moves -/
theorem orgS_behind {d : In ℚ} {zeit : Nat} (s : St ℚ) (h0 : 0 < d.saat) (hlt : d.saat < zeit) :
    flag .orgS { d with zeit := zeit } s = (condS d && decide (zeit = s.ztdg)) ∧
    (step { d with zeit := zeit } s).1.ztdg = s.ztdg := by
  have hne : ¬ zeit = d.saat := by omega
  have hg : sown { d with zeit := zeit } = true := (sown_iff _).mpr ⟨h0, hlt.le⟩
  have hzs : ztdgS { d with zeit := zeit } s.ztdg = s.ztdg := by simp [ztdgS, hne]
  exact ⟨by simp [flag, firesS, trigS, condS, hg, hzs], by rw [step_ztdg, hg, if_pos rfl, hzs]⟩

theorem orgS_passed (ds : List (In ℚ)) (zeit : Nat) (s : St ℚ) (hz : s.ztdg < zeit) (hb : Behind zeit ds) :
    fired .orgS (run zeit ds s).2 = 0 := by
  refine fired_eq_zero .orgS (fun zeit ds s => s.ztdg < zeit ∧ Behind zeit ds) ?_ ds zeit s ⟨hz, hb⟩
  rintro zeit d ds s ⟨hz, hb⟩
  obtain ⟨h0, hlt, hb'⟩ := hb.cons
  obtain ⟨hf, hn⟩ := orgS_behind s h0 hlt
  rw [hf, hn]
  exact ⟨by simp [hz.ne'], hz.trans (Nat.lt_succ_self _), hb'⟩

theorem orgS_pending (ds : List (In ℚ)) (zeit z : Nat) (c : Row ℚ) (s : St ℚ)
    (ho : c.odu = true) (hc : c.orgtime = OrgTime.S) (hz : s.ztdg = z) (hb : Behind zeit ds)
    (hcur : ∀ x ∈ ds, x.cur = c) :
    fired .orgS (run zeit ds s).2 = if zeit ≤ z ∧ z < zeit + ds.length then 1 else 0 := by
  refine fired_on_day .orgS z (fun zeit ds s => s.ztdg = z ∧ (∀ x ∈ ds, x.cur = c) ∧ Behind zeit ds) ?_ ds zeit s
    ⟨hz, hcur, hb⟩
  rintro zeit d ds s ⟨hz, hcur, hb⟩
  obtain ⟨hd, hcur'⟩ := List.forall_mem_cons.mp hcur
  obtain ⟨h0, hlt, hb'⟩ := hb.cons
  obtain ⟨hf, hn⟩ := orgS_behind s h0 hlt
  have hS : condS d = true := by simp [condS, hd, ho, hc]
  rw [hf, hn, hS, hz]
  exact ⟨Bool.true_and _, rfl, hcur', hb'⟩

def demand (i : In ℚ) : Kind → ℚ
  | .min1 => i.cur.ndem1
  | .min2 => i.cur.ndem2
  | .min3 => i.cur.ndem3
  | _ => 0

def Kind.isMineral : Kind → Bool
  | .min1 | .min2 | .min3 => true
  | _ => false

theorem mineral_amount {i : In ℚ} {s : St ℚ} {a : App ℚ} (ha : a ∈ (step i s).2) (hk : a.kind.isMineral = true) :
    ∃ k, a.amount = autoN (demand i a.kind) (nminTop k (c10After i s) i.c1rest) := by
  obtain ⟨-, e⟩ := (mem_step i s a).mp ha
  generalize a.kind = k at hk e
  subst e
  cases k with
  | orgH | orgS => cases hk
  | min1 => exact ⟨3, rfl⟩
  | min2 | min3 => exact ⟨min i.wurz 9, rfl⟩

def sumAmount (p : Kind → Bool) (l : List (App ℚ)) : ℚ := ((l.filter (fun a => p a.kind)).map (·.amount)).sum
def sumFast (l : List (App ℚ)) : ℚ := (l.map (·.fast)).sum
def sumSlow (l : List (App ℚ)) : ℚ := (l.map (·.slow)).sum

theorem mem_run : ∀ (ds : List (In ℚ)) (zeit : Nat) (s : St ℚ) (x : Nat × App ℚ), x ∈ (run zeit ds s).2 →
    ∃ i s', x.2 ∈ (step i s').2
  | [], _, _, x, hx => by simp [run] at hx
  | d :: ds, zeit, s, x, hx => by
    simp only [run, List.mem_append, List.mem_map] at hx
    rcases hx with ⟨a, ha, rfl⟩ | hx
    · exact ⟨_, _, ha⟩
    · exact mem_run ds (zeit + 1) _ x hx

theorem run_mono (f : St ℚ → ℚ) :
    ∀ (ds : List (In ℚ)) (zeit : Nat) (s : St ℚ), (∀ d ∈ ds, ∀ z s, f s ≤ f (step { d with zeit := z } s).1) →
      f s ≤ f (run zeit ds s).1
  | [], _, _, _ => by simp [run]
  | d :: ds, zeit, s, h => by
    obtain ⟨hd, h'⟩ := List.forall_mem_cons.mp h
    simp only [run]
    exact le_trans (hd zeit s) (run_mono f ds (zeit + 1) _ h')

end Hermes.AutoFert
