/-
Models of the pool bookkeeping of `mineral` (hermes/nitro.go:577-696), of the tillage mixing in
`Nitro` (nitro.go:245-288) and of the removal step of `Denitr` / `Denitmo` (hermes/denit.go).
Transcribed from the Go code as it is.  The rate constants `kt0`, `kt1` (Arrhenius terms) and the
moisture / temperature factors of the denitrification rate are inputs (they contain `exp`/`pow`).
-/
import HermesModel.Num
import HermesModel.Nitro
namespace Hermes.Mineral
open Hermes.Nitro (clamp0)

section
variable {α : Type} [Add α] [Sub α] [Mul α] [Div α] [Neg α] [LT α] [DecidableLT α]
  [OfNat α 0] [OfNat α 1] [OfNat α 2] [OfNat α 100] [OfNat α 1000] [OfNat α 1274] [OfNat α 4242] [OfNat α 74]
  [OfScientific α]

/-- nitro.go:612-626: moisture reduction of the mineralisation, soil warmer than 0 °C -/
def miredWarm (wg wnor wred wmin porges : α) : α :=
  let m := if ¬ (wnor < wg) ∧ ¬ (wg < wred) then 1
           else if wg < wred ∧ wmin < wg then (wg - wmin) / (wred - wmin)
           else if wnor < wg then (porges - wg) / (porges - wnor)
           else 0
  let m := if m < 0 then 0 else m
  if 1 < m then 1 else m

/-- nitro.go:665-678: the same for frozen soil (top layer only; no upper clamp in the code) -/
def miredCold (wg w wred wmin porges : α) : α :=
  let m := if wg < w ∧ wred < wg then 1
           else if wg < wred then (wg - wmin) / (wred - wmin)
           else if w + 0.01 < wg ∧ wg < porges then (porges - wg) / (porges - w)
           else if porges < wg then 0
           else 1
  if m < 0 then 0 else m

/-- nitro.go:649 / 689: N2O share of the nitrified amount -/
def fN2oNit (wg porges : α) : α := (0.4 * (wg / porges) - 1.04) / (wg / porges - 1.04) * 0.0016

/-- state of one mineralisation layer as read by `mineral` -/
structure Layer (α : Type) where
  tdUp : α                -- TD[z-1]
  tdLo : α                -- TD[z]
  kt0 : α                 -- 4e9·exp(−8400/(T+273.16))   (input)
  kt1 : α                 -- 5.6e12·exp(−9800/(T+273.16)) (input)
  wg : α
  wnor : α
  wmin : α
  porges : α
  w : α
  naos : α
  nfos : α
  minaos : α
  minfos : α

/-- accumulators that `mineral` updates layer after layer -/
structure Acc (α : Type) where
  ums : α
  nh4ums : α
  n2onitsum : α
  minsum : α

structure LayerOut (α : Type) where
  naos : α
  nfos : α
  minaos : α
  minfos : α
  dn : α
  dums : α
  dnh4 : α

/-- nitro.go:601-694 for one layer (`top` = (z == 1)) -/
def layer (top : Bool) (dsumm nh4sum wred : α) (L : Layer α) (a : Acc α) : LayerOut α × Acc α :=
  let tempbo := (L.tdLo + L.tdUp) / 2
  let fn := fN2oNit L.wg L.porges
  if 0 < tempbo then
    let mired := miredWarm L.wg L.wnor wred L.wmin L.porges
    let dtotal := clamp0 (L.kt0 * L.naos * mired)
    let dminfos := clamp0 (L.kt1 * L.nfos * mired)
    let dums := if top then 0.4 * mired * (dsumm - a.ums) else 0
    let dnh4 := if top then 0.4 * mired * (nh4sum - a.nh4ums) else 0
    let n2o := (dnh4 + dtotal + dminfos) * fn
    let dn := dtotal + dminfos + dums - n2o
    ({ naos := L.naos - dtotal, nfos := L.nfos - dminfos, minaos := L.minaos + dtotal,
       minfos := L.minfos + dminfos, dn := dn, dums := dums, dnh4 := dnh4 },
     { ums := a.ums + dums, nh4ums := a.nh4ums + dnh4, n2onitsum := a.n2onitsum + n2o,
       minsum := a.minsum + dn - dums })
  else
    let mired := miredCold L.wg L.w wred L.wmin L.porges
    let dums := if top then 0.4 * mired * (dsumm - a.ums) else 0
    let dnh4 := if top then 0.4 * mired * (nh4sum - a.nh4ums) else 0
    let n2o := dnh4 * fn
    ({ naos := L.naos, nfos := L.nfos, minaos := L.minaos, minfos := L.minfos,
       dn := dums - n2o, dums := dums, dnh4 := dnh4 },
     { ums := a.ums + dums, nh4ums := a.nh4ums + dnh4, n2onitsum := a.n2onitsum + n2o,
       minsum := a.minsum })

/-- nitro.go:598-695: the loop over the mineralisation layers -/
def go (dsumm nh4sum wred : α) : Bool → List (Layer α) → Acc α → List (LayerOut α) × Acc α
  | _, [], a => ([], a)
  | top, L :: rest, a =>
      let r := layer top dsumm nh4sum wred L a
      let s := go dsumm nh4sum wred false rest r.2
      (r.1 :: s.1, s.2)

def run (dsumm nh4sum wred : α) (ls : List (Layer α)) (a : Acc α) : List (LayerOut α) × Acc α :=
  go dsumm nh4sum wred true ls a

/-! ### tillage mixing (nitro.go:245-288) -/

/-- replace the first `m` entries by `v` -/
def setFirst (m : Nat) (v : α) : List α → List α
  | [] => []
  | x :: xs => match m with
    | 0 => x :: xs
    | k + 1 => v :: setFirst k v xs

structure TillOut (α : Type) where
  nfos : List α
  naos : List α
  minfos : List α
  minaos : List α
  c1 : List α

/-- Mixing over `m = int(round(EINT/DZ))` layers (`mNum` = the same number as a float) for `NFOS`,
`NAOS`, `C1`, and over `mc = min m (length of the counter arrays)` layers (`mcNum` as a float) for
`MINFOS`, `MINAOS` (nitro.go:245-288).  Total for `m ≤ 21` (the size of `NFOS`/`NAOS`/`C1`), i.e. for
every depth inside the largest profile. -/
def tillage (m : Nat) (mNum mcNum : α) (mix : Bool) (nfos naos minfos minaos c1 : List α) : TillOut α :=
  let mc := min m minfos.length
  if mix then
    { nfos := setFirst m (sumFrom 0 (nfos.take m) / mNum) nfos,
      naos := setFirst m (sumFrom 0 (naos.take m) / mNum) naos,
      minfos := setFirst mc (sumFrom 0 (minfos.take mc) / mcNum) minfos,
      minaos := setFirst mc (sumFrom 0 (minaos.take mc) / mcNum) minaos,
      c1 := setFirst m (clamp0 (sumFrom 0 (c1.take m) / mNum)) c1 }
  else { nfos := nfos, naos := naos, minfos := minfos, minaos := minaos, c1 := c1 }

/-- nitro.go:248: number of mixed layers -/
def mixLayers [Conv α] (eint dz : α) : Nat := Conv.roundNat (eint / dz)

/-! ### denitrification (denit.go) -/

/-- denit.go:45-50 (and 143-148 with vmax = 4242): Michaelis-Menten rate in kg N/ha/d -/
def denitRate (vmax n ftheta ftemp : α) : α := vmax * (n * n) / (n * n + 74) * ftheta * ftemp / 1000

/-- denit.go:52-59 / 192-199 for one layer: removal with the non-negativity clamp -/
def denitLayer (c frac denit : α) : α := if 0 < frac then clamp0 (c - denit * frac) else c

structure DenitOut (α : Type) where
  c : List α
  cumdenit : α
  denit : α

/-- `Denitr`: removal from the three top layers in proportion to their nitrate, counter update. -/
def denitr (c0 c1 c2 ftheta ftemp cumdenit : α) : DenitOut α :=
  let n := c0 + c1 + c2
  if 0 < n then
    let d := denitRate 1274 n ftheta ftemp
    { c := [denitLayer c0 (c0 / n) d, denitLayer c1 (c1 / n) d, denitLayer c2 (c2 / n) d],
      cumdenit := cumdenit + d, denit := d }
  else { c := [c0, c1, c2], cumdenit := cumdenit, denit := 0 }

/-- one 30 cm block of `Denitmo`; `swap` = the fractions of the 2nd and 3rd layer are exchanged
(denit.go:120-121, block 60-90 cm). Returns the new contents and the block's rate. -/
def denitmoBlock (swap : Bool) (c0 c1 c2 ftheta ftemp : α) : List α × α :=
  let n := c0 + c1 + c2
  let f0 := if 0 < n then c0 / n else 0
  let f1 := if 0 < n then (if swap then c2 / n else c1 / n) else 0
  let f2 := if 0 < n then (if swap then c1 / n else c2 / n) else 0
  let d := if 0 < n then denitRate 4242 n ftheta ftemp else 0
  ([denitLayer c0 f0 d, denitLayer c1 f1 d, denitLayer c2 f2 d], d)

end
end Hermes.Mineral
