/-
Post-tokenisation models of the remaining paired readers of property C13:
soil profile text vs CSV (soil.go:97-305), crop rotation text vs CSV (input.go:356-439,575-578),
the value mapping of the three weather layouts (weather_input.go:104-595, 597-625).
Core Lean only.
-/
namespace Hermes.InputFormats

/-! ### soil horizons -/
section
variable {α : Type} [Mul α] [Div α] [BEq α] [OfNat α 0] [OfNat α 10] [OfNat α 100] [OfScientific α]

/-- tokens of one horizon line (either encoding) -/
structure HorizonTok (α : Type) where
  corg : α
  cn : α
  stone : α          -- percent
  ld : Nat           -- bulk density class
  bulk : Option α    -- CSV only: column BulkDensity present and not empty
  fc : Option α      -- TryValAsFloat results (blank = none)
  wp : Option α
  pv : Option α
  sand : Option α
  silt : Option α
  clay : Option α

structure Horizon (α : Type) where
  ld : Nat
  bulk : α
  cgehalt : α
  cnratio : α
  ngehalt : α
  humus : α
  stein : α
  fka : α
  wp : α
  gpv : α
  ssand : α
  sluf : α
  ton : α

/-- BulkDensityClassToDensity (soil.go:308-321); other classes leave the zero of a new record -/
def classDensity (ld : Nat) : α :=
  if ld = 1 then 1.1 else if ld = 2 then 1.3 else if ld = 3 then 1.5 else if ld = 4 then 1.7
  else if ld = 5 then 1.85 else 0

/-- cNSetup (soil.go:615-625) -/
def cnOf (cn : α) : α := if cn == 0 then 10 else cn

/-- LoadSoil, one horizon (soil.go:131-177) -/
def horizonTxt (h : HorizonTok α) : Horizon α :=
  { ld := h.ld, bulk := classDensity h.ld, cgehalt := h.corg, cnratio := cnOf h.cn,
    ngehalt := h.corg / cnOf h.cn, humus := h.corg * 1.72 / 100, stein := h.stone / 100,
    fka := h.fc.getD 0, wp := h.wp.getD 0, gpv := h.pv.getD 0,
    ssand := h.sand.getD 0, sluf := h.silt.getD 0, ton := h.clay.getD 0 }

/-- LoadSoilCSV, one horizon (soil.go:236-287) -/
def horizonCsv (h : HorizonTok α) : Horizon α :=
  { ld := h.ld,
    bulk := match h.bulk with
      | some b => b
      | none => classDensity h.ld,
    cgehalt := h.corg, cnratio := cnOf h.cn,
    ngehalt := h.corg / cnOf h.cn, humus := h.corg * 1.72 / 100, stein := h.stone / 100,
    fka := h.fc.getD 0, wp := h.wp.getD 0, gpv := h.pv.getD 0,
    ssand := h.sand.getD 0, sluf := h.silt.getD 0, ton := h.clay.getD 0 }

end

/-! ### rotation lines -/

/-- what one rotation line assigns (texts; number parsing is the same `ValAsFloat` in both) -/
structure RotLine where
  field : String
  crop : String
  sow : String
  harvest : String
  rex : String
  yld : String
  autorg : Option String     -- `len(tokens) > hOrgDung`
  variety : Option String    -- `len(tokens) > hVariety`
  deriving DecidableEq, Repr

structure RotIdx where
  field : Nat := 0
  crop : Nat := 1
  sow : Nat := 2
  harvest : Nat := 3
  rex : Nat := 4
  yld : Nat := 5
  autorg : Nat := 6
  variety : Nat := 7
  deriving DecidableEq, Repr

def pick (ix : RotIdx) (toks : List String) : RotLine :=
  { field := toks.getD ix.field "", crop := toks.getD ix.crop "", sow := toks.getD ix.sow "",
    harvest := toks.getD ix.harvest "", rex := toks.getD ix.rex "", yld := toks.getD ix.yld "",
    autorg := if toks.length > ix.autorg then some (toks.getD ix.autorg "") else none,
    variety := if toks.length > ix.variety then some (toks.getD ix.variety "") else none }

/-- text file: `strings.Fields`, default positions (input.go:360-370) -/
def rotTxt (toks : List String) : RotLine := pick {} toks

/-- header scan of the CSV reader (input.go:375-394): recognised names move the index -/
def headerIdx : List String → Nat → RotIdx → RotIdx
  | [], _, ix => ix
  | t :: rest, i, ix =>
    headerIdx rest (i + 1)
      (if t = "Field_ID" then { ix with field := i }
       else if t = "crop" then { ix with crop := i }
       else if t = "sowing" then { ix with sow := i }
       else if t = "harvest" then { ix with harvest := i }
       else if t = "Rex" then { ix with rex := i }
       else if t = "yld" then { ix with yld := i }
       else if t = "autorg" then { ix with autorg := i }
       else if t = "variety" then { ix with variety := i }
       else ix)

/-- CSV file: `strings.Split(line, ",")`, positions from the header -/
def rotCsv (header toks : List String) : RotLine := pick (headerIdx header 0 {}) toks

/-- the two headers in use: the shipped examples ("crp", "harvst": not recognised, defaults stay)
and the recognised names -/
def shippedHeader : List String := ["Field_ID", "crp", "sowing", "harvst", "Rex", "yld", "autorg", "variety", "comment"]
def recognisedHeader : List String := ["Field_ID", "crop", "sowing", "harvest", "Rex", "yld", "autorg", "variety", "comment"]

/-! ### weather: value mapping of one day -/
section
variable {α : Type} [Add α] [Mul α] [Div α] [LT α] [DecidableLT α] [OfNat α 2] [OfNat α 10] [OfScientific α]

structure WDay (α : Type) where
  tmin : α
  tavg : α
  tmax : α
  precip : α
  rad : α
  wind : α
  rh : α

/-- stored values after transformWeatherData (precipitation mm → cm × correction, PAR = rad/2,
wind floored at 0.5 m/s on every loaded day, weather_input.go:597-625) -/
structure WStored (α : Type) where
  tmp : α
  tmi : α
  tma : α
  reg : α
  radi : α
  relf : α
  win : α

def store (cor : α) (tavg : α) (d : WDay α) : WStored α :=
  { tmp := tavg, tmi := d.tmin, tma := d.tmax, reg := d.precip / 10 * cor, radi := d.rad / 2,
    relf := d.rh, win := if d.wind < 0.5 then 0.5 else d.wind }

/-- one file per year (WetterK, weather_input.go:149-174): columns 0,1,2,4,6,8,9 -/
def dayYearFile (cor : α) (d : WDay α) : WStored α := store cor d.tavg d
/-- multi-year CSV (ReadWeatherCSV, 391-412) -/
def dayCsv (cor : α) (d : WDay α) : WStored α := store cor d.tavg d
/-- day-of-year layout (ReadWeatherCZ, 524-554): the mean is derived -/
def dayCz (cor : α) (d : WDay α) : WStored α := store cor ((d.tmax + d.tmin) / 2) d

end
end Hermes.InputFormats
