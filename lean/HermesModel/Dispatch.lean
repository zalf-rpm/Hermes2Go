/-
Model of the batch dispatcher of src/hermes2go/hermes_main.go:192-263, of the result protocol of
hermes/run.go:784-804, of the session file pool hermes/path.go:198-233 and of the day loop header
of hermes/run.go:315-773.  Core Lean only.

The dispatcher is a nondeterministic transition system.  A run is a *function* `run` of its batch
line (hypothesis `runs_share_only_pool`, discharged outside Lean by the regenerated concurrency
facts and the runtime observations of the C03/C11 checks); `run l = none` stands for a run that
ends in `log.Fatal`/`panic` (the Go process is gone; nothing is received any more).
-/
namespace Hermes.Dispatch

/-- Where a started goroutine `session.Run` (hermes_main.go:229) stands. -/
inductive Phase
  | computing   -- inside `returnedWithErr := func() error {…}()` (run.go:16-783)
  | sendLog     -- blocked in `logout <- result.String()` (run.go:796-797), failed runs only
  | sendResult  -- blocked in `out <- result` (run.go:802-804)
  deriving DecidableEq, Repr

structure Job (Line : Type) where
  id : Nat          -- index `i` of the batch line, logID = "[i]" (hermes_main.go:224)
  line : Line
  phase : Phase
  deriving Repr

/-- Parameters: `run` is the whole simulation as a function of the line; `failed r` is
`!result.Success`; `conc` is `concurrentOperations`. -/
structure Cfg (Line Result : Type) where
  run : Line → Option Result
  failed : Result → Bool
  conc : Nat

structure State (Line Result : Type) where
  pending : List (Nat × Line)                 -- selected lines the `for i, line` loop has not reached
  active : List (Job Line)                    -- started goroutines that have not delivered their result
  activeRuns : Nat                            -- the counter `activeRuns` (hermes_main.go:199)
  finished : List (Nat × Result)              -- results received on `resultChannel`, in order
  errSummary : List (Nat × Result)            -- closure variable `errSummary` without its header line
  summaryResult : Option (List (Nat × Result)) -- `errorSummaryResult` (`none` = nil slice, no result yet)
  logs : List Nat                             -- ids whose message was received on `logOutputChan`
  dead : Bool                                 -- the process was ended by log.Fatal / panic in a run

/-- hermes_main.go:202-209: index `i` runs iff `startLine ≤ i` and not (`numberOfLines > 0` and
`i ≥ numberOfLines`); `endLine = 0` stands for every non-positive value (default −1). -/
def selectLines {Line : Type} (startLine endLine : Nat) (lines : List Line) : List (Nat × Line) :=
  (List.zip (List.range lines.length) lines).filter fun p =>
    decide (startLine ≤ p.1) && (decide (endLine = 0) || decide (p.1 < endLine))

def init {Line Result : Type} (sel : List (Nat × Line)) : State Line Result :=
  { pending := sel, active := [], activeRuns := 0, finished := [], errSummary := [],
    summaryResult := none, logs := [], dead := false }

variable {Line Result : Type}

/-- The dispatcher sits in one of its two `select` statements: lines 210-220 (all slots taken) or
233-243 (no line left, runs outstanding). -/
def receiving (M : Cfg Line Result) (s : State Line Result) : Bool :=
  (!s.pending.isEmpty && s.activeRuns == M.conc) || (s.pending.isEmpty && decide (0 < s.activeRuns))

/-- `errSummary` after `errorSummary(result)` (hermes_main.go:257-262). -/
def addSummary (M : Cfg Line Result) (es : List (Nat × Result)) (i : Nat) (r : Result) : List (Nat × Result) :=
  if M.failed r then es ++ [(i, r)] else es

def sendPhase (M : Cfg Line Result) (r : Result) : Phase :=
  if M.failed r then Phase.sendLog else Phase.sendResult

/-- The transitions. -/
inductive Step (M : Cfg Line Result) : State Line Result → State Line Result → Prop
  /-- hermes_main.go:222-230: a free slot, the next selected line is started. -/
  | start (s : State Line Result) (i : Nat) (l : Line) (rest : List (Nat × Line)) :
      s.dead = false → s.pending = (i, l) :: rest → s.activeRuns < M.conc →
      Step M s { s with pending := rest, active := s.active ++ [⟨i, l, .computing⟩],
                        activeRuns := s.activeRuns + 1 }
  /-- run.go:16-794: the run computes its result and reaches its first channel send. -/
  | compute (s : State Line Result) (pre post : List (Job Line)) (j : Job Line) (r : Result) :
      s.dead = false → s.active = pre ++ j :: post → j.phase = .computing → M.run j.line = some r →
      Step M s { s with active := pre ++ { j with phase := sendPhase M r } :: post }
  /-- a run ends in log.Fatal / panic: the process is gone. -/
  | die (s : State Line Result) (pre post : List (Job Line)) (j : Job Line) :
      s.dead = false → s.active = pre ++ j :: post → j.phase = .computing → M.run j.line = none →
      Step M s { s with dead := true }
  /-- hermes_main.go:215-218 / 238-241 with run.go:797. -/
  | recvLog (s : State Line Result) (pre post : List (Job Line)) (j : Job Line) :
      s.dead = false → s.active = pre ++ j :: post → j.phase = .sendLog → receiving M s = true →
      Step M s { s with active := pre ++ { j with phase := .sendResult } :: post, logs := s.logs ++ [j.id] }
  /-- hermes_main.go:212-214 / 235-237 with run.go:803. -/
  | recvResult (s : State Line Result) (pre post : List (Job Line)) (j : Job Line) (r : Result) :
      s.dead = false → s.active = pre ++ j :: post → j.phase = .sendResult → M.run j.line = some r →
      receiving M s = true →
      Step M s { s with active := pre ++ post, activeRuns := s.activeRuns - 1,
                        finished := s.finished ++ [(j.id, r)],
                        errSummary := addSummary M s.errSummary j.id r,
                        summaryResult := some (addSummary M s.errSummary j.id r) }

/-- Both loops of `doConcurrentBatchRun` have ended: the summary is printed. -/
def Final (s : State Line Result) : Prop := s.pending = [] ∧ s.active = []

/-- `n`-step executions. -/
inductive Exec (M : Cfg Line Result) : State Line Result → Nat → State Line Result → Prop
  | refl (s : State Line Result) : Exec M s 0 s
  | step {s s' s'' : State Line Result} {n : Nat} : Step M s s' → Exec M s' n s'' → Exec M s (n + 1) s''

/-- hermes_main.go:244-250: the number printed after "Number of errors:" is `numErr - 1` where
`numErr` counts the printed lines of `errorSummaryResult` (header included; nothing at all when no
result was ever received). -/
def printedLines (s : State Line Result) : Nat :=
  match s.summaryResult with
  | none => 0
  | some es => es.length + 1

def printedCount (s : State Line Result) : Int := (printedLines s : Int) - 1

/-! ### executable successor enumeration (used by the driver; proved equal to `Step`) -/

def splits {α : Type} : List α → List (List α × α × List α)
  | [] => []
  | a :: l => ([], a, l) :: (splits l).map fun t => (a :: t.1, t.2.1, t.2.2)

def startSucc (M : Cfg Line Result) (s : State Line Result) : List (State Line Result) :=
  match s.pending with
  | [] => []
  | (i, l) :: rest =>
    if s.activeRuns < M.conc then
      [{ s with pending := rest, active := s.active ++ [⟨i, l, .computing⟩], activeRuns := s.activeRuns + 1 }]
    else []

def jobSucc (M : Cfg Line Result) (s : State Line Result) (t : List (Job Line) × Job Line × List (Job Line)) :
    Option (State Line Result) :=
  let pre := t.1; let j := t.2.1; let post := t.2.2
  match j.phase, M.run j.line with
  | .computing, some r => some { s with active := pre ++ { j with phase := sendPhase M r } :: post }
  | .computing, none => some { s with dead := true }
  | .sendLog, _ =>
    if receiving M s then
      some { s with active := pre ++ { j with phase := .sendResult } :: post, logs := s.logs ++ [j.id] }
    else none
  | .sendResult, some r =>
    if receiving M s then
      some { s with active := pre ++ post, activeRuns := s.activeRuns - 1,
                    finished := s.finished ++ [(j.id, r)],
                    errSummary := addSummary M s.errSummary j.id r,
                    summaryResult := some (addSummary M s.errSummary j.id r) }
    else none
  | .sendResult, none => none

def successors (M : Cfg Line Result) (s : State Line Result) : List (State Line Result) :=
  if s.dead then [] else startSucc M s ++ (splits s.active).filterMap (jobSucc M s)

/-- Run under a schedule: every choice picks one enabled transition (modulo their number). -/
def runSchedule (M : Cfg Line Result) : State Line Result → List Nat → State Line Result
  | s, [] => s
  | s, c :: cs =>
    match (successors M s)[c % (successors M s).length]? with
    | none => s
    | some t => runSchedule M t cs

end Hermes.Dispatch

/-! ## The session file pool (hermes/path.go:198-233) -/
namespace Hermes.FilePool

variable {Path Content : Type} [DecidableEq Path]

/-- `FilePool.list`: `none` is the nil map. -/
structure Pool (Path Content : Type) where
  list : Option (List (Path × Content))

def lookup (p : Path) : List (Path × Content) → Option Content
  | [] => none
  | (q, c) :: rest => if p = q then some c else lookup p rest

/-- `Get` (path.go:204-226) between `mux.Lock()` and the deferred `Unlock()`, over an immutable
file system `fs` (a missing file is `log.Fatalf`, outside this model). -/
def get (fs : Path → Content) (pool : Pool Path Content) (p : Path) : Pool Path Content × Content :=
  let m := pool.list.getD []                 -- 206-208 `if fp.list == nil { make }`
  match lookup p m with
  | some c => (⟨some m⟩, c)                  -- 209 hit, 225 `return fp.list[fd.FilePath]`
  | none => (⟨some ((p, fs p) :: m)⟩, fs p)  -- 210-222 `os.ReadFile`, store; 225 returns the stored slice

/-- `Close` (path.go:229-233). -/
def close (_ : Pool Path Content) : Pool Path Content := ⟨none⟩

/-- cache invariant: cached content = file content -/
def Inv (fs : Path → Content) (pool : Pool Path Content) : Prop :=
  ∀ p c, lookup p (pool.list.getD []) = some c → c = fs p

/-- A sequence of `Get` calls (any interleaving of the calls of all runs is such a sequence, because
every access to `list` lies inside the mutex span). Each call is tagged with the run that makes it. -/
def getAll (fs : Path → Content) : Pool Path Content → List (Nat × Path) → Pool Path Content × List (Nat × Content)
  | pool, [] => (pool, [])
  | pool, (r, p) :: rest =>
    let (pool', c) := get fs pool p
    let (pool'', cs) := getAll fs pool' rest
    (pool'', (r, c) :: cs)

/-- What run `r` sees. -/
def view (r : Nat) (xs : List (Nat × Content)) : List Content :=
  (xs.filter fun x => x.1 == r).map (·.2)

def callsOf (r : Nat) (xs : List (Nat × Path)) : List Path :=
  (xs.filter fun x => x.1 == r).map (·.2)

end Hermes.FilePool

/-! ## The day loop header (hermes/run.go:315, 770-772) -/
namespace Hermes.RunLoop

/-- `for ZEIT := BEGINN; ZEIT <= g.ENDE; ZEIT += g.DT.Index { body; if ZEIT == g.ENDE { break } }`.
The body may fail (a returned error ends the run), may change any state `σ` and may move `g.ENDE`
(fertiliser prediction: dung.go:87-92,158-180; output.go:29).  `none` = fuel exhausted. -/
def loop {σ ε : Type} (body : σ → Nat → Nat → Except ε (σ × Nat)) (dt : Nat) :
    Nat → Nat → Nat → σ → Option (Except ε σ)
  | 0, _, _, _ => none
  | fuel + 1, zeit, ende, s =>
    if zeit > ende then some (.ok s) else
    match body s zeit ende with
    | .error e => some (.error e)
    | .ok (s', ende') =>
      if zeit = ende' then some (.ok s') else loop body dt fuel (zeit + dt) ende' s'

end Hermes.RunLoop
