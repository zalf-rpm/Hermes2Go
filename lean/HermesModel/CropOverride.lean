/-
Model of the command-line crop-parameter override (hermes/crop_calibration.go): the entries
`c_<NAME>[_<stage>[_<organ>]]=<value>` after ParseCropOverwrites, the range validation
(isValidCropOverwrite, 189-310), the application (OverwriteCropParameters, 67-186) and `edit`,
the same change made in the token record of the classic crop file.  Core Lean only.
-/
import HermesModel.CropParam
import HermesModel.Num
namespace Hermes.CropOverride
open Hermes.CropParam

/-- the names isValidCropParameter accepts (crop_calibration.go:45-53) -/
inductive PName
  | MAXAMAX | MINTMP | WUMAXPF | VELOC | YIFAK | INITCONCNBIOM | INITCONCNROOT
  | TSUM | BAS | VSCHWELL | DAYL | DLBAS | DRYSWELL | LUKRIT | LAIFKT | WGMAX | KC
  | PRO | DEAD
  deriving DecidableEq, Repr

def PName.ofCode : Nat → Option PName
  | 0 => some .MAXAMAX | 1 => some .MINTMP | 2 => some .WUMAXPF | 3 => some .VELOC | 4 => some .YIFAK
  | 5 => some .INITCONCNBIOM | 6 => some .INITCONCNROOT | 7 => some .TSUM | 8 => some .BAS
  | 9 => some .VSCHWELL | 10 => some .DAYL | 11 => some .DLBAS | 12 => some .DRYSWELL
  | 13 => some .LUKRIT | 14 => some .LAIFKT | 15 => some .WGMAX | 16 => some .KC | 17 => some .PRO
  | 18 => some .DEAD | _ => none

/-- One parsed argument. The number of `_`-separated indices decides the map it lands in
(crop_calibration.go:344-383), whatever the name. -/
inductive Entry (α : Type)
  | base (n : PName) (v : α)
  | stage (n : PName) (stage : Nat) (v : α)
  | part (n : PName) (stage organ : Nat) (v : α)

/-- ParseCropOverwrites: index limits of the parser (stage 1…9, organ 1…5); `false` = the run ends
with an error before it starts. -/
def parseOk {α : Type} : Entry α → Bool
  | .base _ _ => true
  | .stage _ st _ => decide (1 ≤ st ∧ st ≤ 9)
  | .part _ st o _ => decide (1 ≤ st ∧ st ≤ 9) && decide (1 ≤ o ∧ o ≤ 5)

section
variable {α : Type} [Add α] [Div α] [Neg α] [LT α] [LE α] [DecidableLT α] [DecidableLE α]
  [OfNat α 0] [OfNat α 1] [OfNat α 10] [OfNat α 20] [OfNat α 24] [OfNat α 30] [OfNat α 40] [OfNat α 50]
  [OfNat α 100] [OfNat α 200] [OfNat α 10000] [TruncInt α]

/-- range test of one value, per map (crop_calibration.go:193-209, 217-279, 292-306).
`false` = out of range; in the per-stage and per-organ maps also "invalid crop parameter name" (a name that does
not belong to the map). -/
def baseRangeOk (n : PName) (v : α) : Bool :=
  match n with
  | .MAXAMAX => !(decide (v ≤ 0) || decide ((100 : α) < v))
  | .MINTMP => !(decide (v ≤ -(30 : α)) || decide ((50 : α) ≤ v))
  | .WUMAXPF => !(decide (v ≤ 0) || decide ((20 : α) < v))
  | .VELOC => !(decide (v ≤ 0) || decide ((1 : α) < v))
  | .YIFAK => !(decide (v < 0) || decide ((1 : α) < v))
  | .INITCONCNBIOM => !(decide (v < 0) || decide ((100 : α) < v))
  | .INITCONCNROOT => !(decide (v < 0) || decide ((100 : α) < v))
  | _ => true     -- a per-stage name given without index: not tested, and never applied

def stageRangeOk (n : PName) (v : α) : Bool :=
  match n with
  | .TSUM => !(decide (v < 0) || decide ((10000 : α) < v))
  | .BAS => !(decide (v < -(10 : α)) || decide ((40 : α) < v))
  | .VSCHWELL => !(decide (v < 0) || decide ((100 : α) < v))
  | .DAYL => !(decide (v < -(24 : α)) || decide ((24 : α) < v))
  | .DLBAS => !(decide (v < -(24 : α)) || decide ((24 : α) < v))
  | .DRYSWELL => !(decide (v < 0) || decide ((1 : α) < v))
  | .LUKRIT => !(decide (v < 0) || decide ((1 : α) < v))
  | .LAIFKT => !(decide (v < 0) || decide ((100 : α) < v))
  | .WGMAX => !(decide (v < 0) || decide ((100 : α) < v))
  | .KC => !(decide (v ≤ 0))
  | _ => false    -- invalid crop parameter name

def partRangeOk (n : PName) (v : α) : Bool :=
  match n with
  | .PRO => !(decide (v < 0) || decide ((1 : α) < v))
  | .DEAD => !(decide (v < 0) || decide ((1 : α) < v))
  | _ => false

def entryOk (nrkom nrentw : Nat) : Entry α → Bool
  | .base n v => baseRangeOk n v
  | .stage n st v => decide (1 ≤ st ∧ st ≤ nrentw) && stageRangeOk n v
  | .part n st o v => decide (1 ≤ st ∧ st ≤ nrentw) && decide (1 ≤ o ∧ o ≤ nrkom) && partRangeOk n v

/-- isValidCropOverwrite: every test of every entry must pass (the Go code returns `false` at the
first failing one; the verdict does not depend on the iteration order of the maps). -/
def isValid (nrkom nrentw : Nat) (o : List (Entry α)) : Bool := o.all (entryOk nrkom nrentw)

def setCell (m : List (List α)) (i j : Nat) (v : α) : List (List α) :=
  m.set i ((m.getD i []).set j v)

/-- one assignment of OverwriteCropParameters (crop_calibration.go:83-185). `rep` as in
`applyClassic`. -/
def applyEntry (rep : Bool) (s : State α) : Entry α → State α
  | .base .MAXAMAX v => { s with maxamax := v }
  | .base .MINTMP v => { s with mintmp := v }
  | .base .WUMAXPF v => { s with wumaxpf := v }
  | .base .VELOC v => { s with veloc := v / 200 }
  | .base .YIFAK v => { s with yifak := v }
  | .base .INITCONCNBIOM v => if s.dauer && rep then s else { s with gehob := v / 100 }
  | .base .INITCONCNROOT v => if s.dauer && rep then s else { s with wugeh := v / 100 }
  | .base _ _ => s
  | .stage .TSUM st v =>
    -- crop_calibration.go: after the TSUM entries the total temperature sum is derived again
    { s with tsum := s.tsum.set (st - 1) v,
             tendsum := sumFrom 0 ((s.tsum.set (st - 1) v).take s.nrentw) }
  | .stage .BAS st v => { s with bas := s.bas.set (st - 1) v }
  | .stage .VSCHWELL st v => { s with vschwell := s.vschwell.set (st - 1) v }
  | .stage .DAYL st v => { s with dayl := s.dayl.set (st - 1) v }
  | .stage .DLBAS st v => { s with dlbas := s.dlbas.set (st - 1) v }
  | .stage .DRYSWELL st v => { s with dryswell := s.dryswell.set (st - 1) v }
  | .stage .LUKRIT st v => { s with lukrit := s.lukrit.set (st - 1) v }
  | .stage .LAIFKT st v => { s with laifkt := s.laifkt.set (st - 1) v }
  | .stage .WGMAX st v => { s with wgmax := s.wgmax.set (st - 1) v }
  | .stage .KC st v => { s with kc := s.kc.set (st - 1) v }
  | .stage _ _ _ => s
  | .part .PRO st o v => { s with pro := setCell s.pro (st - 1) (o - 1) v }
  | .part .DEAD st o v => { s with dead := setCell s.dead (st - 1) (o - 1) v }
  | .part _ _ _ _ => s

/-- OverwriteCropParameters: nothing happens for another crop file; nothing happens when any test
fails; otherwise every entry is applied. -/
def overwrite (fileMatches rep : Bool) (o : List (Entry α)) (s : State α) : State α :=
  if !fileMatches then s
  else if !isValid s.nrkom s.nrentw o then s
  else o.foldl (applyEntry rep) s

def modifyAt {β : Type} (l : List β) (i : Nat) (f : β → β) : List β :=
  match l[i]? with
  | some x => l.set i (f x)
  | none => l

/-- the same change written into the token record of the classic crop file -/
def edit (t : Classic α) : Entry α → Classic α
  | .base .MAXAMAX v => { t with maxamax := v }
  | .base .MINTMP v => { t with mintmp := v }
  | .base .WUMAXPF v => { t with wumaxpf := v }
  | .base .VELOC v => { t with veloc := v }
  | .base .YIFAK v => { t with yifak := v }
  | .base .INITCONCNBIOM v => { t with initb := v }
  | .base .INITCONCNROOT v => { t with initr := v }
  | .base _ _ => t
  | .stage .TSUM st v => { t with stages := modifyAt t.stages (st - 1) fun x => { x with tsum := v } }
  | .stage .BAS st v => { t with stages := modifyAt t.stages (st - 1) fun x => { x with bas := v } }
  | .stage .VSCHWELL st v => { t with stages := modifyAt t.stages (st - 1) fun x => { x with vschwell := v } }
  | .stage .DAYL st v => { t with stages := modifyAt t.stages (st - 1) fun x => { x with dayl := v } }
  | .stage .DLBAS st v => { t with stages := modifyAt t.stages (st - 1) fun x => { x with dlbas := v } }
  | .stage .DRYSWELL st v => { t with stages := modifyAt t.stages (st - 1) fun x => { x with dryswell := v } }
  | .stage .LUKRIT st v => { t with stages := modifyAt t.stages (st - 1) fun x => { x with lukrit := v } }
  | .stage .LAIFKT st v => { t with stages := modifyAt t.stages (st - 1) fun x => { x with laifkt := v } }
  | .stage .WGMAX st v => { t with stages := modifyAt t.stages (st - 1) fun x => { x with wgmax := v } }
  | .stage .KC st v => { t with stages := modifyAt t.stages (st - 1) fun x => { x with kc := v } }
  | .stage _ _ _ => t
  | .part .PRO st o v => { t with stages := modifyAt t.stages (st - 1) fun x => { x with pro := x.pro.set (o - 1) v } }
  | .part .DEAD st o v => { t with stages := modifyAt t.stages (st - 1) fun x => { x with dead := x.dead.set (o - 1) v } }
  | .part _ _ _ _ => t

/-- the overridable parameters: a name used with the number of indices of its kind -/
def Entry.overridable : Entry α → Bool
  | .base n _ => match n with
    | .MAXAMAX | .MINTMP | .WUMAXPF | .VELOC | .YIFAK | .INITCONCNBIOM | .INITCONCNROOT => true
    | _ => false
  | .stage n _ _ => match n with
    | .TSUM | .BAS | .VSCHWELL | .DAYL | .DLBAS | .DRYSWELL | .LUKRIT | .LAIFKT | .WGMAX | .KC => true
    | _ => false
  | .part n _ _ _ => match n with
    | .PRO | .DEAD => true
    | _ => false

end
end Hermes.CropOverride
