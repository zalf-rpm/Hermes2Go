/-
Model of `nmove` (hermes/nitro.go:699-862): one call of the convection-dispersion transport routine
as a pure function of the state it reads.  Transcribed from the Go code as it is; every Go loop is
a structural recursion over the layer list; the diffusion coefficients `D` (which contain `exp`)
are inputs.  Polymorphic in the arithmetic (see Num.lean): `Float` in the driver, `ℚ` in the proofs.
-/
import HermesModel.Num
namespace Hermes.Nitro

section
variable {α : Type} [Add α] [Sub α] [Mul α] [Div α] [Neg α] [LT α] [DecidableLT α]
  [OfNat α 0] [OfNat α 2] [OfNat α 100] [OfScientific α]

/-- Go `math.Abs` (also maps −0 to +0) -/
def absG (x : α) : α := if 0 < x then x else 0 - x

/-- `if x < 0 { x = 0 }` -/
def clamp0 (x : α) : α := if x < 0 then 0 else x

def zipWith3 {β : Type} (f : α → α → α → β) : List α → List α → List α → List β
  | a :: as, b :: bs, c :: cs => f a b c :: zipWith3 f as bs cs
  | _, _, _ => []

/-- nitro.go:722-727: uptake is limited to what the layer holds above 0.5 kg N/ha, and to ≥ 0 -/
def clampPe (c1 pe : α) : α :=
  let p := if c1 - 0.5 < pe then c1 - 0.5 else pe
  if p < 0 then 0 else p

/-- nitro.go:730-734 -/
def takeUp (c1 pe : α) : α := if c1 - pe < 0 then 0 else c1 - pe

/-- nitro.go:721-735, first sub-step: per layer (C1 after uptake, PE after the clamp) -/
def uptake : List α → List α → List (α × α)
  | c :: cs, p :: ps => (takeUp c (clampPe c p), clampPe c p) :: uptake cs ps
  | _, _ => []

/-- nitro.go:736-739: concentration in the soil solution after half of the source term -/
def conc (dz wdt : α) (c1 dn wg : α) : α :=
  clamp0 ((c1 + dn * wdt / 2) / (wg * dz * 100))

/-- nitro.go:746 pore water velocity -/
def poreV (q wA wB : α) : α := absG (q / ((wA + wB) * 0.5))

/-- nitro.go:747 dispersion coefficient at the lower boundary of the layer -/
def dbCoef (wdt dv : α) (wgA wgB d v qBot qTop : α) : α :=
  (wgA + wgB) / 2 * (d + dv * v) - 0.5 * wdt * absG qBot + 0.5 * wdt * absG ((qBot + qTop) / 2) * v

/-- nitro.go:743-747 over the layers: inputs D[0..N-1], WG[0][0..N], W[0..N], Q1[0..N];
output (V, DB) per layer -/
def dbGo (wdt dv : α) : List α → List α → List α → List α → List (α × α)
  | d :: ds, wgA :: wgB :: wgs, wA :: wB :: ws, qT :: qB :: qs =>
      (poreV qB wA wB, dbCoef wdt dv wgA wgB d (poreV qB wA wB) qB qT)
        :: dbGo wdt dv ds (wgB :: wgs) (wB :: ws) (qB :: qs)
  | _, _, _, _ => []

/-- nitro.go:748-757: DISP per layer as the difference of the interface fluxes.
`prev` = (DB, concentration) of the layer above; list = (concentration, DB) per remaining layer.
With a single layer the Go code takes the first branch and reads `Carray[2] = 0`. -/
def dispGo (dz2 : α) : Option (α × α) → List (α × α) → List α
  | _, [] => []
  | none, [(c, db)] => [(-db) * (c - 0) / dz2]
  | none, (c, db) :: (c2, db2) :: rest =>
      ((-db) * (c - c2) / dz2) :: dispGo dz2 (some (db, c)) ((c2, db2) :: rest)
  | some (dbp, cp), [(c, _)] => [dbp * (cp - c) / dz2]
  | some (dbp, cp), (c, db) :: (c2, db2) :: rest =>
      (dbp * (cp - c) / dz2 - db * (c - c2) / dz2) :: dispGo dz2 (some (db, c)) ((c2, db2) :: rest)

/-- nitro.go:759-820 for one layer: upstream convection in the four sign cases, `top` = (z == 1),
`drain` = (z == DRAIDEP); cUp / c / cDown = Carray[z-1], Carray[z], Carray[z+1];
qTop / qBot = Q1[z-1], Q1[z].  The drain layer loses `c·QDRAIN` in every sign case. -/
def konvLayer (dz qdrain : α) (top drain : Bool) (cUp c cDown qTop qBot : α) : α :=
  if qBot < 0 then
    if qTop < 0 then
      (if top then
         (if drain then (cDown * qBot + c * qdrain) / dz else cDown * qBot / dz)
       else if drain then (cDown * qBot + c * qdrain - c * qTop) / dz
       else (cDown * qBot - c * qTop) / dz)
    else
      (if drain then (cDown * qBot + c * qdrain - cUp * qTop) / dz
       else (cDown * qBot - cUp * qTop) / dz)
  else
    if qTop < 0 then
      (if top then
         (if drain then (c * qBot + c * qdrain) / dz else c * qBot / dz)
       else if drain then (c * qBot + c * qdrain - c * qTop) / dz
       else (c * qBot - c * qTop) / dz)
    else
      (if drain then (c * qBot + c * qdrain - cUp * qTop) / dz
       else (c * qBot - cUp * qTop) / dz)

/-- nitro.go:759-820 over the layers; list = (Carray[z], Q1[z]) for z, z+1, …; below the last
layer the concentration is `Carray[N+1] = 0`. -/
def konvGo (dz qdrain : α) (draidep : Nat) : Nat → α → α → List (α × α) → List α
  | _, _, _, [] => []
  | z, cUp, qTop, (c, qBot) :: rest =>
      konvLayer dz qdrain (z == 1) (z == draidep) cUp c
          (match rest with | [] => 0 | (c2, _) :: _ => c2) qTop qBot
        :: konvGo dz qdrain draidep (z + 1) c qBot rest

/-- nitro.go:808 -/
def newC (dz : α) (cw disp konv : α) : α := (cw + disp - konv) * dz * 100

/-- nitro.go:830-849: the leaching counter (`OUTSUM`, and `NLEAG` with the same terms);
`deep` = (OUTN < N). -/
def leachAdd (dz : α) (deep : Bool) (acc qOut cOut cBelow dbOut : α) : α :=
  if 0 < qOut then
    if deep then acc + qOut * cOut / dz * 100 * dz + dbOut * (cOut - cBelow) / (dz * dz) * 100 * dz
    else acc + qOut * cOut / dz * 100 * dz
  else
    if deep then acc + qOut * cBelow / dz * 100 * dz + dbOut * (cOut - cBelow) / (dz * dz) * 100 * dz
    else acc

/-- Inputs of one `nmove` call (N = c1.length layers). -/
structure In (α : Type) where
  dz : α
  wdt : α
  dv : α
  first : Bool            -- subd == 1
  fluss0 : α
  q : List α              -- Q1[1..N]
  qdrain : α
  draidep : Nat
  outn : Nat
  wg : List α             -- WG[0][0..N]  (N+1 entries)
  w : List α              -- W[0..N]      (N+1 entries)
  d : List α              -- D[0..N-1] as computed by the Go code (contains exp)
  c1 : List α
  pe : List α
  dn : List α
  stab : α                -- C1stabilityVal
  inSeason : Bool         -- the current crop is sown (SAAT > 0) and SAAT ≤ zeit ≤ ERNTE2 (nitro.go:859)
  afterSow : Bool         -- zeit > SAAT
  schnorr : α
  pesum : α
  aufnasum : α
  outsum : α
  nleag : α
  drainloss : α

structure Out (α : Type) where
  c1 : List α
  pe : List α
  carr : List α           -- Carray[1..N]
  v : List α
  db : List α
  disp : List α
  konv : List α
  ck : List α             -- the pre-clamp values of nitro.go:808
  unstable : Bool
  pesum : α
  aufnasum : α
  outsum : α
  nleag : α
  drainloss : α

/-- nitro.go:718-735: C1 and PE after the uptake block (identity after the first sub-step) -/
def phaseUptake (i : In α) : List (α × α) :=
  if i.first then uptake i.c1 i.pe else i.c1.zip i.pe

def carrOf (i : In α) (c1u : List α) : List α := zipWith3 (conc i.dz i.wdt) c1u i.dn i.wg

def q1Of (i : In α) : List α := (i.fluss0 * i.wdt) :: i.q

/-- Carray[k] for k = 0 … N+1 (zero outside 1 … N) -/
def carrGet (carr : List α) (k : Nat) : α := ((0 : α) :: carr).getD k 0

/-- One call of `nmove`. -/
def step (i : In α) : Out α :=
  let up := phaseUptake i
  let c1u := up.map (·.1)
  let peu := up.map (·.2)
  let carr := carrOf i c1u
  let q1 := q1Of i
  let vdb := dbGo i.wdt i.dv i.d i.wg i.w q1
  let db := vdb.map (·.2)
  let disp := dispGo (i.dz * i.dz) none (carr.zip db)
  let konv := konvGo i.dz i.qdrain i.draidep 1 0 (i.fluss0 * i.wdt) (carr.zip i.q)
  let cw := List.zipWith (· * ·) carr i.wg
  let ck := zipWith3 (newC i.dz) cw disp konv
  let n := i.c1.length
  let qOut := q1.getD i.outn 0
  let cOut := carrGet carr i.outn
  let cBelow := carrGet carr (i.outn + 1)
  let dbOut := db.getD (i.outn - 1) 0
  { c1 := List.zipWith (fun c dn => clamp0 (clamp0 c + dn * i.wdt / 2)) ck i.dn,
    pe := peu, carr := carr, v := vdb.map (·.1), db := db, disp := disp, konv := konv, ck := ck,
    unstable := ck.any (fun x => x < i.stab),
    pesum := (if i.first then
                (let p := sumFrom i.pesum peu
                 if i.inSeason then p + i.schnorr else p)
              else i.pesum),
    aufnasum := if i.first then sumFrom i.aufnasum peu else i.aufnasum,
    outsum := leachAdd i.dz (i.outn < n) i.outsum qOut cOut cBelow dbOut,
    nleag := if i.afterSow then leachAdd i.dz (i.outn < n) i.nleag qOut cOut cBelow dbOut else i.nleag,
    drainloss := i.drainloss + i.qdrain * carrGet carr i.draidep / i.dz * 100 * i.dz }

/-- feed the state written by one call into the inputs of the next sub-step of the same day -/
def feed (j : In α) (o : Out α) : In α :=
  { j with first := false, c1 := o.c1, pe := o.pe, pesum := o.pesum, aufnasum := o.aufnasum,
           outsum := o.outsum, nleag := o.nleag, drainloss := o.drainloss }

/-- a day: the first sub-step with `subd == 1`, then the remaining sub-steps (fluxes, water
contents and coefficients of each sub-step are those of the list entries) -/
def runRest : Out α → List (In α) → Out α
  | o, [] => o
  | o, j :: rest => runRest (step (feed j o)) rest

def runDay (i : In α) (rest : List (In α)) : Out α := runRest (step { i with first := true }) rest

end
end Hermes.Nitro
