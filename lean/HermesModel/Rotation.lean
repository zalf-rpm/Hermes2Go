/-
Model of the crop-rotation state machine of HERMES (core Lean only, executable).

* rotation arrays after `Input` (input.go:354-590): `SAAT`, `SAAT1`, `SAAT2`, `ERNTE`, `ERNTE2`, the crop
  code per entry; `AKF` the current entry;
* automatic sowing trigger and forced sowing at the end of the window (run.go:551-592);
* sowing event, automatic / forced harvest inside `PhytoOut` (crop.go:61-64, 182-204, 549-555), which is
  only called between sowing and the latest harvest date (run.go:629-636);
* harvest and crop switch in `Nitro` (nitro.go:293-569): crop record, `AKF.Inc()`, the skipped-crop branch;
* automatic irrigation gate and cap (run.go:430-466); automatic N dose (nitro.go:118-124 etc.).

Weather- and state-dependent trigger conditions are inputs (arbitrary Booleans / numbers).
The Go arrays are fixed-size (300 cells) and zero-initialised: total functions `Nat → Nat`, updated with `upd`.
-/
namespace Hermes.Rotation

structure Cfg where
  automan : Bool   -- AutoSowingHarvest
  autohar : Bool   -- AutoHarvest
  deriving Repr, DecidableEq

abbrev Arr := Nat → Nat

/-- `a[i] = v` -/
def upd (a : Arr) (i v : Nat) : Arr := fun j => if j = i then v else a j

structure St where
  akf : Nat
  saat : Arr
  saat1 : Arr
  saat2 : Arr
  ernte : Arr
  ernte2 : Arr
  /-- crop records written so far: (rotation index, harvest day); index 0 = "SKIPPED" record -/
  records : List (Nat × Nat) := []
  /-- sowing events: (rotation index, day) -/
  sown : List (Nat × Nat) := []

def get (a : Arr) (i : Nat) : Nat := a i

def setSaat (s : St) (z : Nat) : St := { s with saat := upd s.saat s.akf z }

/-- run.go:552-553: `AUTOMAN && AKF.Num > 1`, `SAAT[AKF] == 0 && ZEIT >= SAAT1[AKF]` -/
def sowGate (c : Cfg) (zeit : Nat) (s : St) : Bool :=
  c.automan && decide (1 ≤ s.akf) && decide (s.saat s.akf = 0) && decide (s.saat1 s.akf ≤ zeit)

/-- run.go:562-582. `trig`: temperature-sum, sliding-temperature, moisture and rain conditions;
the sowing day must be more than four days after the harvest of the predecessor. -/
def trigSow (zeit : Nat) (trig : Bool) (s : St) : St :=
  if trig && decide (s.ernte (s.akf - 1) + 4 < zeit) then setSaat s zeit else s

/-- run.go:585-587: forced sowing on the last day of the window -/
def forcedSow (zeit : Nat) (s : St) : St :=
  if decide (zeit = s.saat2 s.akf) && decide (s.saat s.akf = 0) then setSaat s zeit else s

/-- run.go:551-592 -/
def sowingBlock (c : Cfg) (zeit : Nat) (trig : Bool) (s : St) : St :=
  if sowGate c zeit s then forcedSow zeit (trigSow zeit trig s) else s

/-- run.go:629-630: `PhytoOut` is called between sowing and the latest harvest date -/
def growing (zeit : Nat) (s : St) : Bool :=
  decide (1 ≤ s.akf) && decide (0 < s.saat s.akf) && decide (s.saat s.akf ≤ zeit) && decide (zeit ≤ s.ernte2 s.akf)

/-- crop.go:61-64 -/
def sowEvent (zeit : Nat) (s : St) : St :=
  if zeit = s.saat s.akf then { s with sown := s.sown ++ [(s.akf, zeit)] } else s

/-- crop.go:192-195 / 551-554: a fixed sowing date of the successor that has passed is moved behind the harvest -/
def pushNextSowing (zeit base : Nat) (s : St) : St :=
  if decide (0 < s.saat (s.akf + 1)) && decide (s.saat (s.akf + 1) < zeit)
  then { s with saat := upd s.saat (s.akf + 1) (base + 4), saat2 := upd s.saat2 (s.akf + 1) (base + 4) } else s

def setErnte (s : St) (z : Nat) : St := { s with ernte := upd s.ernte s.akf z }
def setErnteBoth (s : St) (z : Nat) : St := { s with ernte := upd s.ernte s.akf z, ernte2 := upd s.ernte2 s.akf z }

/-- crop.go:183-197. `harTrig`: ripeness, moisture and rain conditions of the automatic harvest. -/
def autoHarvest (zeit : Nat) (harTrig : Bool) (s : St) : St :=
  if harTrig then pushNextSowing zeit zeit (setErnteBoth s zeit) else s

/-- crop.go:200-202 -/
def forcedHarvest1 (zeit : Nat) (s : St) : St :=
  if decide (zeit + 1 = s.ernte2 s.akf) && decide (s.ernte s.akf = 0) then setErnte s (zeit + 1) else s

/-- crop.go:150,182-204. `emerged`: `SUM[0] >= TSUM[0]`, the block that contains the automatic harvest. -/
def harvestBlock (zeit : Nat) (emerged harTrig : Bool) (s : St) : St :=
  if emerged && decide (s.ernte s.akf = 0) then forcedHarvest1 zeit (autoHarvest zeit harTrig s) else s

/-- crop.go:549-555 -/
def forcedHarvest2 (zeit : Nat) (s : St) : St :=
  if decide (zeit + 1 = s.ernte2 s.akf) && decide (s.ernte s.akf = 0)
  then pushNextSowing zeit (zeit + 1) (setErnte s (zeit + 1)) else s

/-- `PhytoOut` as far as the rotation is concerned -/
def phyto (zeit : Nat) (emerged harTrig : Bool) (s : St) : St :=
  if growing zeit s then forcedHarvest2 zeit (harvestBlock zeit emerged harTrig (sowEvent zeit s)) else s

/-- nitro.go:293-505 as far as the rotation is concerned. `orgH`: organic fertiliser after harvest is
configured for the harvested crop (`ODU[AKF-1] == 1 && ORGTIME[AKF-1] == "H"`, evaluated after the
increment). The crop records written are collected in `records`. -/
def harvest (c : Cfg) (zeit : Nat) (orgH : Bool) (s : St) : St :=
  if zeit = s.ernte s.akf then
    if decide (s.saat2 (s.akf + 1) ≤ zeit) && c.automan && orgH then
      -- the next crop is skipped: its "SKIPPED" record replaces the record just filled (one line is written)
      { s with akf := s.akf + 2, records := s.records ++ [(0, zeit)] }
    else
      { s with akf := s.akf + 1, records := if 1 ≤ s.akf then s.records ++ [(s.akf, zeit)] else s.records }
  else s

/-- `Input`, behind the last line of the field: the placeholder entry after the last rotation entry gets the
sowing window `SAAT1 = SAAT2 =` one year after the last sowing; with automatic sowing `SAAT` of the last
entry is not yet set while the file is read, then the end of its window is taken (fix C16-1). -/
def placeholderWindow (saatLast saat2Last : Nat) : Nat :=
  (if saatLast = 0 then saat2Last else saatLast) + 365

/-- one simulated day: sowing block (before the sub-step loop), `PhytoOut` and `Nitro` of sub-step 1 -/
def day (c : Cfg) (zeit : Nat) (trig emerged harTrig orgH : Bool) (s : St) : St :=
  harvest c zeit orgH (phyto zeit emerged harTrig (sowingBlock c zeit trig s))

/-- inputs of one day -/
structure DayIn where
  trig : Bool
  emerged : Bool
  harTrig : Bool
  orgH : Bool
  deriving Repr, DecidableEq

def run (c : Cfg) : Nat → List DayIn → St → St
  | _, [], s => s
  | zeit, i :: r, s => run c (zeit + 1) r (day c zeit i.trig i.emerged i.harTrig i.orgH s)

/-! ### automatic irrigation and automatic N (numeric, polymorphic) -/

/-- run.go:431-433: a crop is sown, the day is after sowing, the development stage lies between the two
configured stages (`INTWICK.Num >= IRRST1 && INTWICK.Num < IRRST2+1`; stages are whole numbers). -/
def irrGate (saat zeit intwick irrst1 irrst2 : Nat) : Bool :=
  decide (0 < saat) && decide (saat < zeit) && decide (irrst1 ≤ intwick) && decide (intwick < irrst2 + 1)

section
variable {α : Type} [Add α] [Sub α] [Mul α] [Div α] [LT α] [DecidableLT α] [OfNat α 0] [OfNat α 1] [OfScientific α]

/-- Go `math.Min` / `math.Max` on ordinary numbers -/
def fmin (a b : α) : α := if b < a then b else a
def fmax (a b : α) : α := if a < b then b else a

/-- run.go:439-452: relative plant-available water and deficit of one layer (rain of the day added in
the first layer by the caller), clamped -/
def layerNfkDefz (wg w wmin : α) : α × α :=
  let nfk := (wg - wmin) / (w - wmin)
  let defz := (w - wg) * 100.0
  let nfk := if nfk < 0 then 0 else nfk
  if 1 < nfk then (1, 0) else (nfk, defz)

/-- run.go:460: the amount handed to `setIrrigation` (mm) -/
def irrAmount (defzsum irrmax : α) : α := fmin (defzsum * 0.9) irrmax

/-- nitro.go:122, 139, 161 …: the automatic N dose -/
def autoN (ndem nmin : α) : α := fmax (ndem - nmin) 0

end

end Hermes.Rotation
