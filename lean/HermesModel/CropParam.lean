/-
Model of the two crop-parameter readers and of the shipped classic→YAML converter at the
*post-tokenisation* layer (hermes/cropparam.go).

* `Classic α` — the token record of a classic fixed-width crop file: what the fixed columns hold
  after number parsing (`ValAsFloat`, `ValAsInt`, `TryValAsFloat`), five organ slots per row,
  one `StageTok` per development stage.
* `Yml α` — the record `yaml.Unmarshal` fills (`CropParam`, cropparam.go:16-63).
* `applyClassic` — ReadCropParamClassic (cropparam.go:217-407): what is stored into the model state,
  including the derived quantities (VELOC/200, initial concentrations/100, total temperature sum,
  BBCH flag) and the resets.
* `applyYml` — ReadCropParamYml (cropparam.go:101-214).
* `convert` — ConvertCropParamClassicToYml (cropparam.go:409-620).

Tokenisation (fixed columns, `strings.Fields`, the YAML library) is not modelled; it is covered by
the correspondence check on every shipped file.  Polymorphic in the arithmetic; core Lean only.
-/
namespace Hermes.CropParam

/-- Go `int(x)` on a float64 (truncation toward zero) and `float64(i)`. -/
class TruncInt (α : Type) where
  truncInt : α → Int
  ofInt : Int → α

instance : TruncInt Float where
  truncInt x := (Float.toInt64 x).toInt
  ofInt i := Float.ofInt i

section
variable {α : Type}

/-- tokens of one development stage of a classic file (13 lines, cropparam.go:352-405) -/
structure StageTok (α : Type) where
  /-- `TryValAsFloat(headline[65:])` when the headline is longer than 65 bytes and the tail is a number -/
  bbch : Option α
  tsum : α
  bas : α
  vschwell : α
  dayl : α
  dlbas : α
  dryswell : α
  lukrit : α
  laifkt : α
  wgmax : α
  pro : List α       -- five slots
  dead : List α      -- five slots
  kc : α

/-- token record of a classic crop file -/
structure Classic (α : Type) where
  maxamax : α
  temptyp : Int
  mintmp : α
  wumaxpf : α
  veloc : α          -- RTVELOC as written (mm/°C)
  ngefkt : Int
  a : Option α       -- token `a=` of the N-content line
  b : Option α       -- token `b=`
  org : Option Int   -- token `org=S<k>`
  above : List Int
  yorgan : Int
  yifak : α
  initb : α          -- % N in above-ground biomass
  initr : α          -- % N in roots
  nrkom : Nat
  dauer : Bool
  legum : Bool
  worg : List α      -- five slots
  mairt : List α     -- five slots
  kcini : α
  nrentw : Nat
  stages : List (StageTok α)

structure StageY (α : Type) where
  bbch : Int
  tsum : α
  bas : α
  vschwell : α
  dayl : α
  dlbas : α
  dryswell : α
  lukrit : α
  laifkt : α
  wgmax : α
  pro : List α
  dead : List α
  kc : α

/-- the record the YAML library fills (absent keys = zero values) -/
structure Yml (α : Type) where
  maxamax : α
  temptyp : Int
  mintmp : α
  wumaxpf : α
  veloc : α
  ngefkt : Int
  rga : α
  rgb : α
  subOrgan : Int
  above : List Int
  yorgan : Int
  yifak : α
  initb : α
  initr : α
  nrkom : Nat
  dauer : Bool
  legum : Bool
  worg : List α
  mairt : List α
  kcini : α
  nrentw : Nat
  stages : List (StageY α)

/-- Every field of `GlobalVarsMain` / `CropSharedVars` the readers and the override write. -/
structure State (α : Type) where
  maxamax : α
  mintmp : α
  wumaxpf : α
  veloc : α
  rga : α
  rgb : α
  yifak : α
  gehob : α
  wugeh : α
  phyllo : α
  verntage : α
  trootsum : α
  kcini : α
  tendsum : α
  temptyp : Int
  ngefkt : Int
  subOrgan : Int
  yorgan : Int
  nrkom : Nat
  nrentw : Nat
  stageDays : List Int      -- DOUBLE ASIP BLUET REIF ENDPRO
  dauer : Bool
  legum : Bool
  useBBCH : Bool
  above : List Int
  worg : List α             -- 5
  wdorg : List α            -- 10
  mairt : List α            -- 10
  sum : List α              -- 10 each
  tsum : List α
  bas : List α
  vschwell : List α
  dayl : List α
  dlbas : List α
  dryswell : List α
  lukrit : List α
  laifkt : List α
  wgmax : List α
  kc : List α
  endbbch : List α
  dev : List Int            -- 10
  pro : List (List α)       -- 10 × 5
  dead : List (List α)      -- 10 × 5

/-- `for L < n { old[L] = new[L] }` -/
def overlay (n : Nat) (new old : List α) : List α := new.take n ++ old.drop n

variable [Add α] [Div α] [LT α] [LE α] [DecidableLT α] [DecidableLE α]
  [OfNat α 0] [OfNat α 100] [OfNat α 200] [TruncInt α]

/-- The reset block both readers run after the permanent-crop flag is known
(cropparam.go:146-167 and 309-330; ResetStages, dung.go:59-61). -/
def reset (dauer : Bool) (s : State α) : State α :=
  if dauer then
    { s with sum := s.sum.take 2 ++ List.replicate 8 0,
             pro := s.pro.take 2 ++ List.replicate 8 (List.replicate 5 0),
             dead := s.dead.take 2 ++ List.replicate 8 (List.replicate 5 0),
             trootsum := 0 }
  else
    { s with stageDays := [0, 0, 0, 0, 0], phyllo := 0, verntage := 0,
             sum := List.replicate 10 0, dev := List.replicate 10 0,
             pro := List.replicate 10 (List.replicate 5 0),
             dead := List.replicate 10 (List.replicate 5 0),
             trootsum := 0 }

/-- BBCH code the classic reader takes from a stage headline (cropparam.go:354-363). -/
def bbchClassic (t : Option α) : Int :=
  match t with
  | some v => if (0 : α) ≤ v ∧ v < (100 : α) then TruncInt.truncInt v else 0
  | none => 0

/-- BBCH code the converter writes (cropparam.go:546-554): no range test. -/
def bbchConvert (t : Option α) : Int :=
  match t with
  | some v => TruncInt.truncInt v
  | none => 0

/-- one pass of the stage loop of ReadCropParamClassic (cropparam.go:352-405) -/
def stageClassic (nrkom i : Nat) (st : StageTok α) (s : State α) : State α :=
  let e : α := TruncInt.ofInt (bbchClassic st.bbch)
  { s with endbbch := s.endbbch.set i e,
           useBBCH := s.useBBCH || decide ((0 : α) < e),
           tsum := s.tsum.set i st.tsum,
           bas := s.bas.set i st.bas,
           vschwell := s.vschwell.set i st.vschwell,
           dayl := s.dayl.set i st.dayl,
           dlbas := s.dlbas.set i st.dlbas,
           dryswell := s.dryswell.set i st.dryswell,
           lukrit := s.lukrit.set i st.lukrit,
           laifkt := s.laifkt.set i st.laifkt,
           wgmax := s.wgmax.set i st.wgmax,
           pro := s.pro.set i (overlay nrkom st.pro (s.pro.getD i [])),
           dead := s.dead.set i (overlay nrkom st.dead (s.dead.getD i [])),
           tendsum := s.tendsum + st.tsum,
           kc := s.kc.set i st.kc }

def stagesClassic (nrkom : Nat) : List (StageTok α) → Nat → State α → State α
  | [], _, s => s
  | st :: rest, i, s => stagesClassic nrkom rest (i + 1) (stageClassic nrkom i st s)

/-- one pass of the stage loop of ReadCropParamYml (cropparam.go:194-212) -/
def stageYml (nrkom i : Nat) (y : StageY α) (s : State α) : State α :=
  let e : α := TruncInt.ofInt y.bbch
  { s with endbbch := s.endbbch.set i e,
           useBBCH := s.useBBCH || decide ((0 : α) < e),
           tsum := s.tsum.set i y.tsum,
           bas := s.bas.set i y.bas,
           vschwell := s.vschwell.set i y.vschwell,
           dayl := s.dayl.set i y.dayl,
           dlbas := s.dlbas.set i y.dlbas,
           dryswell := s.dryswell.set i y.dryswell,
           lukrit := s.lukrit.set i y.lukrit,
           laifkt := s.laifkt.set i y.laifkt,
           wgmax := s.wgmax.set i y.wgmax,
           pro := s.pro.set i (overlay nrkom y.pro (s.pro.getD i [])),
           dead := s.dead.set i (overlay nrkom y.dead (s.dead.getD i [])),
           kc := s.kc.set i y.kc,
           tendsum := s.tendsum + y.tsum }

def stagesYml (nrkom : Nat) : List (StageY α) → Nat → State α → State α
  | [], _, s => s
  | y :: rest, i, s => stagesYml nrkom rest (i + 1) (stageYml nrkom i y s)

/-- ReadCropParamClassic on a record within the array bounds. `rep` is the state condition
`AKF.Num > 2 ∧ FRUCHT[AKF] = FRUCHT[AKF−1]` (a permanent crop grown again keeps its masses). -/
def applyClassicCore (t : Classic α) (rep : Bool) (s : State α) : State α :=
  let five := t.ngefkt == 5
  let s1 : State α :=
    { s with maxamax := t.maxamax, temptyp := t.temptyp, mintmp := t.mintmp, wumaxpf := t.wumaxpf,
             veloc := t.veloc / 200, ngefkt := t.ngefkt,
             -- cropparam.go: reset before the function-5 block, then the optional tokens
             rga := if five then t.a.getD 0 else 0,
             rgb := if five then t.b.getD 0 else 0,
             subOrgan := if five then t.org.getD 0 else 0,
             above := t.above, yorgan := t.yorgan, yifak := t.yifak, nrkom := t.nrkom,
             dauer := t.dauer, legum := t.legum }
  let s2 := reset t.dauer s1
  let keep := t.dauer && rep
  let s3 : State α :=
    { s2 with gehob := if keep then s2.gehob else t.initb / 100,
              wugeh := if keep then s2.wugeh else t.initr / 100,
              worg := if keep then s2.worg else overlay t.nrkom t.worg s2.worg,
              mairt := overlay t.nrkom t.mairt s2.mairt,
              wdorg := overlay t.nrkom (List.replicate t.nrkom 0) s2.wdorg,
              kcini := t.kcini, nrentw := t.nrentw, tendsum := 0, useBBCH := false }
  stagesClassic t.nrkom (t.stages.take t.nrentw) 0 s3

/-- `none` where the Go code ends the process (`log.Fatal`) or indexes an array out of range. -/
def applyClassic (t : Classic α) (rep : Bool) (s : State α) : Option (State α) :=
  if t.nrkom > 5 ∨ t.nrentw > 10 ∨ t.stages.length < t.nrentw ∨
     (t.ngefkt = 5 ∧ (t.org.getD 0) > 5) then none
  else some (applyClassicCore t rep s)

def applyYmlCore (y : Yml α) (rep : Bool) (s : State α) : State α :=
  let s1 : State α :=
    { s with maxamax := y.maxamax, temptyp := y.temptyp, mintmp := y.mintmp, wumaxpf := y.wumaxpf,
             veloc := y.veloc / 200, ngefkt := y.ngefkt, rga := y.rga, rgb := y.rgb,
             subOrgan := y.subOrgan, yorgan := y.yorgan, yifak := y.yifak,
             dauer := y.dauer, legum := y.legum, nrkom := y.nrkom, above := y.above,
             nrentw := y.nrentw }
  let s2 := reset y.dauer s1
  let keep := y.dauer && rep
  let s3 : State α :=
    { s2 with worg := if keep then s2.worg else overlay y.nrkom y.worg s2.worg,
              mairt := overlay y.nrkom y.mairt s2.mairt,
              wdorg := overlay y.nrkom (List.replicate y.nrkom 0) s2.wdorg,
              gehob := if keep then s2.gehob else y.initb / 100,
              wugeh := if keep then s2.wugeh else y.initr / 100,
              kcini := y.kcini, tendsum := 0, useBBCH := false }
  stagesYml y.nrkom (y.stages.take y.nrentw) 0 s3

/-- the shape tests of ReadCropParamYml (cropparam.go:128-144, 170-178) and the slice bounds of its
loops -/
def ymlShapeOk (y : Yml α) : Bool :=
  decide (y.nrkom ≤ 5) && y.above.all (fun o => decide (1 ≤ o) && decide (o ≤ (y.nrkom : Int))) &&
  decide (y.nrentw ≤ 10) && decide (y.worg.length = y.nrkom) && decide (y.mairt.length = y.nrkom) &&
  decide (y.nrentw ≤ y.stages.length) &&
  (y.stages.take y.nrentw).all (fun st => decide (y.nrkom ≤ st.pro.length) && decide (y.nrkom ≤ st.dead.length))

def applyYml (y : Yml α) (rep : Bool) (s : State α) : Option (State α) :=
  if ymlShapeOk y then some (applyYmlCore y rep s) else none

/-- one stage of ConvertCropParamClassicToYml (cropparam.go:544-603) -/
def convertStage (nrkom : Nat) (st : StageTok α) : StageY α :=
  { bbch := bbchConvert st.bbch, tsum := st.tsum, bas := st.bas, vschwell := st.vschwell,
    dayl := st.dayl, dlbas := st.dlbas, dryswell := st.dryswell, lukrit := st.lukrit,
    laifkt := st.laifkt, wgmax := st.wgmax, pro := st.pro.take nrkom, dead := st.dead.take nrkom,
    kc := st.kc }

/-- ConvertCropParamClassicToYml (cropparam.go:409-620), numeric fields -/
def convert (t : Classic α) : Yml α :=
  let five := t.ngefkt == 5
  { maxamax := t.maxamax, temptyp := t.temptyp, mintmp := t.mintmp, wumaxpf := t.wumaxpf,
    veloc := t.veloc, ngefkt := t.ngefkt,
    rga := if five then t.a.getD 0 else 0,
    rgb := if five then t.b.getD 0 else 0,
    subOrgan := if five then t.org.getD 0 else 0,
    above := t.above, yorgan := t.yorgan, yifak := t.yifak, initb := t.initb, initr := t.initr,
    nrkom := t.nrkom, dauer := t.dauer, legum := t.legum,
    worg := t.worg.take t.nrkom, mairt := t.mairt.take t.nrkom, kcini := t.kcini,
    nrentw := t.nrentw, stages := (t.stages.take t.nrentw).map (convertStage t.nrkom) }

/-- Shape limits of a crop file: at most 5 organs and 10 stages, five slots per organ row, one
token block per stage, above-ground organs among the organs, BBCH codes in 0 … 99. -/
structure Classic.WF (t : Classic α) : Prop where
  nrkom_le : t.nrkom ≤ 5
  nrentw_le : t.nrentw ≤ 10
  stages_len : t.stages.length = t.nrentw
  worg_len : t.worg.length = 5
  mairt_len : t.mairt.length = 5
  above_ok : ∀ o ∈ t.above, 1 ≤ o ∧ o ≤ (t.nrkom : Int)
  org_le : t.ngefkt = 5 → t.org.getD 0 ≤ 5
  slots : ∀ st ∈ t.stages, st.pro.length = 5 ∧ st.dead.length = 5
  bbch_ok : ∀ st ∈ t.stages, ∀ v, st.bbch = some v → (0 : α) ≤ v ∧ v < (100 : α)

end
end Hermes.CropParam
