/-
Model of the record bookkeeping of the day loop of hermes/run.go: at which day numbers ZEIT the
daily, yearly and crop `WriteLine` calls are reached.

  run.go:131-140   DAYOUT / OUTY, extension of ENDE, month and day of the annual output date
  run.go:315       for ZEIT := BEGINN; ZEIT <= ENDE; ZEIT += 1
  run.go:643-651   crop record when Nitro reports a finished cycle (nitro.go:293,344,431,468)
  run.go:673-687   daily record when OUTINT > 0 and ZEIT % OUTINT == 0
  run.go:728-739   yearly record when isAnnualOutputDay(ZEIT, outMonth, outDayOfMonth) (run.go:809-817)

Core Lean only, executable; Go `int` is `Nat` (all quantities are ≥ 0 for dates from 1901 on).
-/
import HermesModel.Calendar
namespace Hermes.RecordLoop
open Hermes.Calendar

/-- The values of ZEIT the loop body runs for (run.go:315; the `break` at 771 is redundant). -/
def window (beginn ende : Nat) : List Nat := List.range' beginn (ende + 1 - beginn)

/-- run.go:673-687: ZEIT of the daily WriteLine calls. -/
def dailyWrites (k : Nat) (zs : List Nat) : List Nat :=
  zs.filter fun z => decide (k > 0) && z % k == 0

/-- run.go `isAnnualOutputDay`: the day number falls on the annual output date (month, day); an
annual output date 29.02. is written on 01.03. in years without a 29.02.  Outside 1 … 72684
KalenderDate indexes its month table out of range (`none`; never reached for dates 1901-2099). -/
def isAnnualOutputDay (z outMonth outDay : Nat) : Bool :=
  match kalenderDate z with
  | none => false
  | some (year, month, day) =>
    (month == outMonth && day == outDay) ||
      (outMonth == 2 && outDay == 29 && month == 3 && day == 1 && year % 4 != 0)

/-- run.go:728: ZEIT of the yearly WriteLine calls. -/
def yearlyWrites (outMonth outDay : Nat) (zs : List Nat) : List Nat :=
  zs.filter fun z => isAnnualOutputDay z outMonth outDay

/-- nitro.go:293 (`zeit == ERNTE[AKF] && subd == 1`), 344 (`AKF.Num > 1` ⇒ finished), 468
(`AKF.Inc()`), with fixed sowing and harvest dates (AUTOMAN off, so the "skipped crop" branch
470-536 is not taken): (ZEIT, AKF.Index) of the crop WriteLine calls. `ernte` is the array ERNTE
(unset entries are 0). -/
def cropWrites (ernte : List Nat) : List Nat → Nat → List (Nat × Nat)
  | [], _ => []
  | z :: rest, akf =>
    if ernte.getD akf 0 == z then
      if akf ≥ 1 then (z, akf) :: cropWrites ernte rest (akf + 1)
      else cropWrites ernte rest (akf + 1)
    else cropWrites ernte rest akf

/-- What run.go derives from the configuration before the loop. -/
structure Setup where
  beginn : Nat
  ende : Nat        -- ENDE after the extension of run.go:135-137
  outMonth : Nat    -- month and day of KalenderDate(OUTY), run.go:140
  outDay : Nat
  deriving DecidableEq, Repr

/-- Start date (harvest of the initial crop) `sy sm sd`, configured end date `ey em ed`, configured
annual output date `am ad` (month, day), all as numbers; `sy`, `ey` are year offsets.
run.go:133-140: DAYOUT = AnnualOutputDate + year text of EndDate, (_, OUTY) = Datum(DAYOUT),
ENDE extended to OUTY + 1 when OUTY ≥ ENDE, (outMonth, outDay) = KalenderDate(OUTY). -/
def setup (sy sm sd ey em ed am ad : Nat) : Setup :=
  let beginn := masdat sy sm sd
  let ende0 := masdat ey em ed
  let outy := masdat ey am ad
  let md := match kalenderDate outy with
    | some (_, m, d) => (m, d)
    | none => (0, 0)
  { beginn := beginn
    ende := if outy ≥ ende0 then outy + 1 else ende0
    outMonth := md.1
    outDay := md.2 }

/-- All three record streams of one run. -/
def records (sy sm sd ey em ed am ad k : Nat) (ernte : List Nat) :
    List Nat × List Nat × List (Nat × Nat) :=
  let s := setup sy sm sd ey em ed am ad
  let zs := window s.beginn s.ende
  (dailyWrites k zs, yearlyWrites s.outMonth s.outDay zs, cropWrites ernte zs 0)

end Hermes.RecordLoop
