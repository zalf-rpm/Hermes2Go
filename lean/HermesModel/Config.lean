/-
Model of the configuration overlay of a HERMES run (C14):

* `NewDefaultConfig()`                      hermes/config.go:195-243  → `defaults` (table regenerated from the source)
* `yaml.Unmarshal(file, &hconfig)`          hermes/config.go:84-90    → `applyFile`
* the argument map of `Run`                 hermes/run.go:37-43       → `argMap`
* `commandlineOverride(argValues, &hconfig)` hermes/config.go:150-192 → `overrideAll`
* the post-processing of `readConfig`       hermes/config.go:125-143  → `finalize`

A configuration is the list of the fields of `type Config struct` in declaration order with their
current value (`Table`).  Values are typed by the kind reflection sees.  The float type `F` is a
parameter (no arithmetic happens here); `strconv.ParseFloat` and the scalar decoding of the YAML
library are inputs of the model (`pf`, `FileVal`), `strconv.ParseInt(·, 10, 64)` is modelled
exactly.  Core Lean only.
-/
import HermesModel.Generated.ConfigFacts
namespace Hermes.Config

/-- value of one configuration field -/
inductive Val (F : Type) where
  | float (x : F)
  | int (i : Int)
  | text (s : String)
  | switch (b : Bool)
  | other
  deriving Repr, DecidableEq

/-- a configuration: (field name, value) in declaration order -/
abbrev Table (F : Type) := List (String × Val F)

/-- first entry with the key (`reflect.Value.FieldByName`, Go map read) -/
def lookup {β : Type} : List (String × β) → String → Option β
  | [], _ => none
  | (n, x) :: r, k => if n = k then some x else lookup r k

section
variable {F : Type}

/-! ### defaults -/

def ofLit [OfScientific F] [Neg F] : CfgLit → Val F
  | .float neg m e =>
    let x : F := OfScientific.ofScientific m true e
    .float (if neg then -x else x)
  | .int i => .int i
  | .text s => .text s
  | .switch b => .switch b
  | .other => .other

/-- `NewDefaultConfig()` -/
def defaults [OfScientific F] [Neg F] : Table F :=
  Generated.configFields.map fun e => (e.1, ofLit e.2.1)

/-- name of the YAML text codec of a field ("" = plain scalar) -/
def codecOf (k : String) : String :=
  match lookup Generated.configFields k with
  | some e => e.2
  | none => ""

/-- `featureSwitchStrToID[text]` with the comma-ok flag -/
def switchOf (text : String) : Option Bool := lookup Generated.switchSpellings text

/-- `toID[text]` / `dateStrToID[text]`: a missing text gives the zero value -/
def enumOf (codec text : String) : Int :=
  match lookup Generated.configEnums codec with
  | some tbl => (lookup tbl text).getD 0
  | none => 0

/-! ### strconv.ParseInt(s, 10, 64) -/

def digitsVal : List Char → Option Nat
  | [] => none
  | cs => cs.foldl (fun acc c => match acc with
      | some a => if '0' ≤ c ∧ c ≤ '9' then some (a * 10 + (c.toNat - 48)) else none
      | none => none) (some 0)

/-- optional sign, at least one decimal digit, nothing else, value within int64 -/
def parseInt64 (s : String) : Option Int :=
  let cs := s.toList
  let sd : Bool × List Char := match cs with
    | '-' :: r => (true, r)
    | '+' :: r => (false, r)
    | _ => (false, cs)
  match digitsVal sd.2 with
  | none => none
  | some n =>
    let v : Int := if sd.1 then -(n : Int) else (n : Int)
    if -9223372036854775808 ≤ v ∧ v ≤ 9223372036854775807 then some v else none

/-! ### the command-line override (config.go:150-192) -/

/-- one field, one argument text: `none` = the parse error that ends in `log.Fatalf`.
An on/off key with a text outside the spelling table keeps its value (config.go:181-185). -/
def overrideVal (pf : String → Option F) (old : Val F) (text : String) : Option (Val F) :=
  match old with
  | .float _ => (pf text).map .float
  | .int _ => (parseInt64 text).map .int
  | .text _ => some (.text text)
  | .switch b => some (.switch ((switchOf text).getD b))
  | .other => some .other

/-- `f := v.FieldByName(argKey)`; unknown key: nothing happens -/
def overrideKey (pf : String → Option F) : Table F → String → String → Option (Table F)
  | [], _, _ => some []
  | (n, x) :: r, k, v =>
    if n = k then (overrideVal pf x v).map fun y => (n, y) :: r
    else (overrideKey pf r k v).map fun r' => (n, x) :: r'

/-- `for argKey, argVal := range argValues` (in the order of the list; the Go map order is random —
`Hermes.Config.overrideAll_perm` (HermesProofs/Config.lean) shows that the order is irrelevant) -/
def overrideAll (pf : String → Option F) : Table F → List (String × String) → Option (Table F)
  | t, [] => some t
  | t, (k, v) :: m =>
    match overrideKey pf t k v with
    | none => none
    | some t' => overrideAll pf t' m

/-! ### the argument map (run.go:37-43) -/

/-- `argValues[k] = v` -/
def insertArg : List (String × String) → String → String → List (String × String)
  | [], k, v => [(k, v)]
  | (n, x) :: r, k, v => if n = k then (n, v) :: r else (n, x) :: insertArg r k v

/-- fold of key/value pairs into the map: the last value of a key wins -/
def argMapKV (kvs : List (String × String)) : List (String × String) :=
  kvs.foldl (fun m kv => insertArg m kv.1 kv.2) []

/-- the pieces of `strings.Split(token, "=")` (never empty; n separators give n+1 pieces) -/
def splitEq : List Char → List (List Char)
  | [] => [[]]
  | c :: r =>
    match splitEq r with
    | [] => [[c]]
    | p :: ps => if c = '=' then [] :: p :: ps else (c :: p) :: ps

/-- `splitup := strings.Split(token, "="); if len(splitup) == 2` -/
def splitToken (tok : String) : Option (String × String) :=
  match splitEq tok.toList with
  | [k, v] => some (String.ofList k, String.ofList v)
  | _ => none

def argMap (toks : List String) : List (String × String) := argMapKV (toks.filterMap splitToken)

/-! ### the configuration file -/

/-- one `key: scalar` entry of config.yml as the YAML library decodes the scalar into a string, a
float64 and an int (`none` = the library reports a type error, which ends in `log.Fatalf`) -/
structure FileVal (F : Type) where
  str : Option String
  num : Option F
  int : Option Int

/-- decoding into a field that already holds `old`; `codec` selects `UnmarshalYAML` of the
enumeration types; on/off keys: `*s = featureSwitchStrToID[j]` (unknown text gives false) -/
def decodeFile (codec : String) (old : Val F) (fv : FileVal F) : Option (Val F) :=
  match old with
  | .float _ => fv.num.map .float
  | .int _ => if codec = "" then fv.int.map .int else fv.str.map fun s => .int (enumOf codec s)
  | .text _ => fv.str.map .text
  | .switch _ => fv.str.map fun s => .switch ((switchOf s).getD false)
  | .other => some .other

/-- keys of the file that are no fields are ignored; absent keys keep their value -/
def applyFile : Table F → List (String × FileVal F) → Option (Table F)
  | [], _ => some []
  | (n, x) :: r, file =>
    match (match lookup file n with
           | none => some x
           | some fv => decodeFile (codecOf n) x fv), applyFile r file with
    | some y, some r' => some ((n, y) :: r')
    | _, _ => none

/-! ### effective configuration -/

/-- defaults, then the file, then the arguments (as key/value pairs) -/
def effectiveKV (pf : String → Option F) (dflt : Table F) (file : List (String × FileVal F))
    (kvs : List (String × String)) : Option (Table F) :=
  match applyFile dflt file with
  | none => none
  | some t => overrideAll pf t (argMapKV kvs)

/-- the same from the raw tokens of the batch line -/
def effective (pf : String → Option F) (dflt : Table F) (file : List (String × FileVal F))
    (toks : List String) : Option (Table F) :=
  effectiveKV pf dflt file (toks.filterMap splitToken)

/-! ### post-processing in readConfig (config.go:125-143) -/

/-- apply `f` to the text of field `k` -/
def updText (k : String) (f : String → String) : Table F → Table F
  | [] => []
  | (n, x) :: r =>
    if n = k then (n, match x with | .text s => .text (f s) | y => y) :: r
    else (n, x) :: updText k f r

def textOf (t : Table F) (k : String) : String :=
  match lookup t k with
  | some (.text s) => s
  | _ => ""

def intOf (t : Table F) (k : String) : Int :=
  match lookup t k with
  | some (.int i) => i
  | _ => 0

/-- `strings.TrimPrefix(s, ".")` -/
def trimDot (s : String) : String :=
  match s.toList with
  | '.' :: r => String.ofList r
  | _ => s

def finalize (root : String) (t : Table F) : Table F :=
  let t := updText "WeatherFolder" (fun s => if s.isEmpty then "Weather" else s) t
  let t := updText "WeatherRootFolder" (fun s => if s.isEmpty then root else s) t
  let t := updText "WeatherRootFolder"
    (fun s => if s.startsWith "./" || s.startsWith ".\\" then root ++ trimDot s else s) t
  let ext := if intOf t "ResultFileFormat" = 1 then "csv" else "RES"
  updText "ResultFileExt" (fun s => if s.isEmpty then ext else s) t

end
end Hermes.Config
