/-
Model of the N bookkeeping of the harvest branch of `Nitro` (hermes/nitro.go:293-570, executed in the first
sub-step of the day `zeit == ERNTE[AKF]`), of `resid` (nitro.go:865-950) and of `pinit` (nitro.go:953-964),
transcribed from the Go code as it is.

* `resid` : the N of the harvested crop that stays on the field — above-ground residues DGM (= NSA + NLA =
  NRESID) and roots DGU (= NUSA + NULA) — from the crop N `PESUM`, the residue-export value `JN` of the rotation
  entry (0 = all residues stay, 1 = all removed, 2 = the whole plant stays, else the removed fraction), the
  permanent-crop flag and the row of CROP_N.TXT of the crop (`KOSTRO`, `NERNT`, `NKOPP`, `NWURA`, `NFAST`: the
  table values are inputs of the model; the table is read by the Go side), plus `ln.NAGB`.
* `step` : residues added to `NFOS`/`NAOS` (above-ground part to the top layer, roots over the `WURZ` rooted
  layers by the root shares `WUANT`), `NUPTAKE`, `DSUMM`, `YIELD`, the numbers of the crop record, the state of
  a permanent crop after a cut, the skipped-crop branch of automatic sowing (nitro.go:470-536: the organic dressing
  after harvest is applied at once — NSAS to NFOS[0], NLAS to NAOS[0], NDIR to DSUMM — and booked in the SKIPPED record), `pinit` and the
  final reset (nitro.go:548-565).
* the rotation counters (AKF, records written) are modelled in HermesModel/Rotation.lean (`Rotation.harvest`);
  `Out.akfInc` repeats the increment so that the two models can be compared.

The model keeps the array bound of the code: `WUANT` has 20 cells, a root depth `WURZ` beyond the list is an
index-out-of-range panic (`Out.panics`).  Core Lean only; polymorphic in the arithmetic; executable (driver ops
`harvest.*`).
-/
import HermesModel.Num
import HermesModel.Generated.CropNFacts
namespace Hermes.Harvest

section
variable {α : Type} [Add α] [Sub α] [Mul α] [Div α] [LT α] [DecidableLT α]
  [OfNat α 0] [OfNat α 1] [OfNat α 2] [OfNat α 100] [OfNat α 720] [OfNat α 820] [OfScientific α]

/-- Go `x == c` on ordinary numbers (no NaN), with the order only -/
def isEq (x c : α) : Bool := !(decide (x < c)) && !(decide (c < x))

/-- `if x < 0 { x = 0 }` -/
def clamp0 (x : α) : α := if x < 0 then 0 else x

/-- Go `math.Max` on ordinary numbers -/
def fmax (a b : α) : α := if a < b then b else a

/-- the columns of the crop's row of CROP_N.TXT that `resid` reads (nitro.go:882-890) -/
structure CropNRow (α : Type) where
  kostro : α   -- CROP[4:7]    grain : straw ratio
  nernt : α    -- CROP[13:18]  N in the harvested product
  nkopp : α    -- CROP[25:30]  N in the by-product
  nwura : α    -- CROP[36:40]  share of the roots in the crop N
  nfast : α    -- CROP[41:45]  fast decomposing share of the residue N

structure ResidIn (α : Type) where
  dauerkult : Bool   -- g.DAUERKULT (parameter file of the harvested crop)
  isAA : Bool        -- FRUCHT[AKF] == AA
  jn : α             -- JN[AKF]
  pesum : α
  obmas : α
  gehob : α
  row : CropNRow α

structure Resid (α : Type) where
  nagb : α
  dgm : α
  dgu : α
  ndi : α
  nsa : α
  nla : α
  nusa : α
  nula : α
  nresid : α

/-- nitro.go:907 / 934: residues of a non-permanent crop of which the fraction `jn` is removed -/
def annualDgm (jn p : α) (t : CropNRow α) : α :=
  (1 - jn) * (p - p * (1 - t.nwura) * t.nernt / (t.nernt + t.kostro * t.nkopp) - p * t.nwura)

/-- nitro.go:900-936: (DGM, DGU) before the two clamps -/
def rawDg (i : ResidIn α) : α × α :=
  let p := i.pesum
  let w := i.row.nwura
  if isEq i.jn 0 then
    if i.dauerkult then ((i.obmas - 820) * i.gehob, 0) else (annualDgm i.jn p i.row, p * w)
  else if isEq i.jn 1 then
    if i.dauerkult then (if i.isAA then (0, p * w * 0.74) else (0, p * w * 0.2)) else (0, p * w)
  else if isEq i.jn 2 then (p - p * w, p * w)
  else if i.dauerkult then (p - i.obmas * i.jn * i.gehob, p * w * 0.74)
  else (annualDgm i.jn p i.row, p * w)

/-- nitro.go:865-950 -/
def resid (i : ResidIn α) : Resid α :=
  let raw := rawDg i
  let dgm := clamp0 raw.1
  let dgu := clamp0 raw.2
  let f := i.row.nfast
  { nagb := i.pesum - i.pesum * i.row.nwura, dgm := dgm, dgu := dgu, ndi := 0,
    nsa := dgm * f, nla := dgm * (1 - f), nusa := dgu * f, nula := dgu * (1 - f), nresid := dgm }

/-- what the harvest branch uses when `resid` is not called (`AKF.Num == 1`, nitro.go:300-301) -/
def noResid (nagbOld : α) : Resid α :=
  { nagb := nagbOld, dgm := 0, dgu := 0, ndi := 0, nsa := 0, nla := 0, nusa := 0, nula := 0, nresid := 0 }

/-- `pool[0] = pool[0] + x` (nitro.go:310-311) -/
def addTop (x : α) : List α → List α
  | [] => []
  | p :: ps => (p + x) :: ps

/-- `for i := 0; i < WURZ; i++ { pool[i] = pool[i] + c*WUANT[i] }` (nitro.go:312-315) -/
def addRoots (c : α) : Nat → List α → List α → List α
  | k + 1, w :: ws, p :: ps => (p + c * w) :: addRoots c k ws ps
  | _, _, ps => ps

/-- `YIELD` (nitro.go:321-329); `worg` = WORG[0..4] -/
def yieldOf (yorgan : Nat) (yifak obmas : α) (worg : List α) : α :=
  if yorgan = 0 then
    if isEq yifak 0.99 then obmas - 820 else obmas * yifak
  else (worg.getD (yorgan - 1) 0) * yifak

/-- the crop state the harvest branch rewrites -/
structure CropSt (α : Type) where
  pesum : α
  obmas : α
  wumas : α
  lai : α
  wurz : Nat
  worg : List α        -- WORG[0..4]
  standing : Bool      -- INTWICK.Index ≥ 0 (a crop stands; `false` after `INTWICK.SetByIndex(-1)`)

/-- nitro.go:447-464: organ masses and crop N after the cut.  A permanent crop whose residues stay or are
removed as a whole (JN = 0 or 1) keeps its roots, a floor of leaf / stem mass and a floor of crop N. -/
def afterCut (dauerkult : Bool) (jn yifak gehob wugeh : α) (s : CropSt α) : CropSt α :=
  if dauerkult && (isEq jn 0 || isEq jn 1) then
    let w0 := s.worg.getD 0 0
    let w1 := fmax (s.worg.getD 1 0 * (1 - yifak)) 720
    let w2 := fmax (s.worg.getD 2 0 * (1 - yifak)) 100
    { s with worg := [w0, w1, w2, 0, 0],
             pesum := fmax ((s.pesum - w0 * wugeh) * (1 - yifak)) (820 * gehob + w0 * wugeh),
             obmas := w1 + w2, wumas := w0 }
  else { s with worg := s.worg.map fun _ => 0 }

/-- nitro.go:953-964 (`VERNTAGE`, `PHYLLO` are reset with them) -/
def pinit (dauerkult : Bool) (s : CropSt α) : CropSt α :=
  if dauerkult then s else { s with pesum := 0, obmas := 0, wumas := 0, wurz := 0, standing := false }

/-- nitro.go:548-565: unless the next rotation entry is grass / alfalfa (GRE, GR, AA) the crop state is cleared -/
def finalReset (nextPerennialCode : Bool) (s : CropSt α) : CropSt α :=
  if nextPerennialCode then s
  else { s with pesum := 0, wurz := 0, lai := 0, obmas := 0, wumas := 0, standing := false }

structure In (α : Type) where
  first : Bool            -- AKF.Num == 1: the pre-crop of the start date (`resid` not called, no record)
  r : ResidIn α
  nagbOld : α             -- ln.NAGB before the call
  wuant : List α          -- WUANT[0..19]
  nfos : List α           -- NFOS[0..20]
  naos : List α
  dsumm : α
  yorgan : Nat
  yifak : α
  wugeh : α
  crop : CropSt α         -- PESUM and OBMAS are those of `r`
  naltos : α
  nakt : α
  domeng1 : α             -- ln.DOMENG1 (organic fertiliser N of the season, for the record)
  windowPassed : Bool     -- SAAT2[AKF+1] <= zeit   (after the increment)
  automan : Bool
  orgH : Bool             -- ODU[AKF] == 1 && ORGTIME[AKF] == "H" of the harvested entry
  nsas : α                -- NSAS / NLAS / NDIR of the harvested entry
  nlas : α
  ndir : α
  nextPerennialCode : Bool   -- FRUCHT[AKF'] ∈ {GRE, GR, AA} for the entry that is current afterwards

/-- the numbers of the crop record (`CropOutputVars`) -/
structure Rec (α : Type) where
  yield : α
  biomass : α
  roots : α
  nuptake : α
  nagb : α
  nresid : α
  soilN1 : α
  orgN : α

structure Out (α : Type) where
  panics : Bool           -- WURZ beyond the 20 cells of WUANT / the 21 cells of the pools
  res : Resid α
  nfos : List α
  naos : List α
  dsumm : α
  yield : α               -- g.YIELD
  nuptake : α             -- ln.NUPTAKE
  record : Bool           -- a crop record is written (finishedCycle)
  skipped : Bool          -- it is the SKIPPED record of the crop whose sowing window has passed
  recv : Rec α
  crop : CropSt α
  akfInc : Nat

def sum3 (xs : List α) : α := xs.getD 0 0 + xs.getD 1 0 + xs.getD 2 0

/-- nitro.go:300-309: `resid` is called for every entry but the pre-crop of the start date -/
def residOf (i : In α) : Resid α := if i.first then noResid i.nagbOld else resid i.r

/-- nitro.go:470-471: the sowing window of the next entry has passed (automatic sowing) and organic fertiliser
after harvest is configured for the harvested entry -/
def skipOf (i : In α) : Bool := i.windowPassed && i.automan && i.orgH

/-- the pools after the residues were added (nitro.go:310-315) -/
def nfosAfterResidues (i : In α) : List α :=
  addRoots (residOf i).nusa i.crop.wurz i.wuant (addTop (residOf i).nsa i.nfos)
def naosAfterResidues (i : In α) : List α :=
  addRoots (residOf i).nula i.crop.wurz i.wuant (addTop (residOf i).nla i.naos)

/-- nitro.go:293-570 -/
def step (i : In α) : Out α :=
  let res := residOf i
  -- 310-315
  let nfos := nfosAfterResidues i
  let naos := naosAfterResidues i
  -- 317-319
  let nuptake := i.r.pesum
  let dsumm := i.dsumm + res.ndi
  let pes1 := i.r.pesum - (res.nsa + res.nla + res.ndi)
  let yld := yieldOf i.yorgan i.yifak i.r.obmas i.crop.worg
  -- 344-432
  let soilN1 := i.naltos / i.nakt * (1 - i.nakt) + sum3 naos + sum3 nfos
  let rec1 : Rec α := { yield := yld, biomass := i.r.obmas, roots := i.crop.worg.getD 0 0, nuptake := nuptake,
                        nagb := res.nagb, nresid := res.nresid, soilN1 := soilN1, orgN := i.domeng1 }
  -- 447-464
  let c1 := afterCut i.r.dauerkult i.r.jn i.yifak i.r.gehob i.wugeh { i.crop with pesum := pes1, obmas := i.r.obmas }
  -- 470-535
  let skip := skipOf i
  let nfos := if skip then addTop i.nsas nfos else nfos
  let naos := if skip then addTop i.nlas naos else naos
  let dsumm := if skip then dsumm + i.ndir else dsumm
  let recS : Rec α := { yield := 0, biomass := 0, roots := 0, nuptake := 0, nagb := 0, nresid := 0, soilN1 := 0,
                        orgN := i.nsas + i.nlas + i.ndir }
  -- 536-564
  let c2 := finalReset i.nextPerennialCode (pinit i.r.dauerkult c1)
  { panics := decide (i.wuant.length < i.crop.wurz) || decide (i.nfos.length < i.crop.wurz) || decide (i.naos.length < i.crop.wurz),
    res := res, nfos := nfos, naos := naos, dsumm := dsumm, yield := yld, nuptake := nuptake,
    record := skip || !i.first, skipped := skip,
    recv := if skip then recS else rec1,
    crop := c2, akfInc := if skip then 2 else 1 }

end

section
variable {α : Type} [Div α] [OfNat α 100] [Conv α]

/-- a row of the regenerated table `Generated.cropNRows` (values in hundredths) as numbers: `ParseFloat` of a text
with two decimals is the correctly rounded quotient of two exact integers -/
def rowOfHundredths (v : List Nat) : CropNRow α :=
  { kostro := Conv.ofNat (v.getD 0 0) / 100, nernt := Conv.ofNat (v.getD 1 0) / 100, nkopp := Conv.ofNat (v.getD 2 0) / 100,
    nwura := Conv.ofNat (v.getD 3 0) / 100, nfast := Conv.ofNat (v.getD 4 0) / 100 }

/-- nitro.go:878-893: the first line whose code matches; all values stay 0 when there is none -/
def lookupRow (tbl : List (List Nat × List Nat)) (code : List Nat) : List Nat :=
  match tbl.find? (fun r => r.1 == code) with
  | some r => r.2
  | none => [0, 0, 0, 0, 0]

end
end Hermes.Harvest
