/-
Model of `Water` (hermes/water.go:805-995): one call of the capacity-cascade water routine, as a
pure function of the state it reads.  Every Go loop is a structural recursion over the layer list.
Polymorphic in the arithmetic (see Num.lean).
-/
import HermesModel.Num
namespace Hermes.Water

section
variable {α : Type} [Add α] [Sub α] [Mul α] [Div α] [Neg α] [LT α] [DecidableLT α]
  [OfNat α 0] [OfNat α 1] [OfNat α 3] [OfNat α 10] [OfNat α 21] [OfScientific α] [Conv α]

/-- Inputs of one `Water` call. Lists have one entry per layer (length N) unless noted. -/
structure In (α : Type) where
  dz : α
  wdt : α
  first : Bool            -- subd == 1
  fluss0 : α
  wg : List α             -- first: WG[0][i]; otherwise WG[1][i] of the previous sub-step
  tp : List α
  w : List α              -- field capacity W
  wmin : List α
  ev : List α             -- l.EV[0..N-1]
  evTail : α              -- l.EV[N]
  nfk : List α
  caps : List α           -- g.CAPS[0..20]
  grw : α
  draidep : Nat
  draifak : α
  outn : Nat
  gwauf : α
  q0prev : α              -- stale Q1[0] (kept when FLUSS0 = 0)

structure Out (α : Type) where
  wg1 : List α            -- new WG[1][i]
  tp : List α             -- TP after the availability limit
  ev : List α
  evTail : α
  q1 : List α             -- Q1[0..N]  (length N+1)
  qdrain : α
  below : α               -- WATER[1][N]: water pushed below the last layer by the overflow pass
  dSicker : α             -- increments of the accumulators
  dCapsum : α
  dDraisum : α
  dInfilt : α
  dTrans : α              -- Σ TP·wdt added to PFTRANS/TRAY

/-- water.go:823-833: uptake limited to the water above wilting point (first sub-step only). -/
def limitTp (dz : α) : List α → List α → List α → List α
  | tp :: tps, wg :: wgs, wmin :: wmins =>
    (if (wg - wmin) * dz < tp then (if wg < wmin then 0 else (wg - wmin) * dz) else tp)
      :: limitTp dz tps wgs wmins
  | _, _, _ => []

/-- WATER[0][i] = WG[0][i]·dz − TP[i]·wdt -/
def water0 (dz wdt : α) : List α → List α → List α
  | wg :: wgs, tp :: tps => (wg * dz - tp * wdt) :: water0 dz wdt wgs tps
  | _, _ => []

/-- water.go:845-869: infiltration cascade from layer `k` (1-based) with inflow `a`.
Input: (WATER0, W) per layer. Output: WATER1, Q1[k…N], QDRAIN. -/
def infil (dz : α) (draidep : Nat) (draifak : α) : α → Nat → List (α × α) → List α × List α × α
  | _, _, [] => ([], [], 0)
  | a, k, (wa, w) :: rest =>
    let b := a + wa
    let a' := b - w * dz
    if a' < 0 then (b :: rest.map (·.1), 0 :: rest.map (fun _ => 0), 0)
    else
      let aOut := if k = draidep then (1 - draifak) * a' else a'
      let qd := if k = draidep then draifak * a' else 0
      let r := infil dz draidep draifak aOut (k + 1) rest
      (w * dz :: r.1, aOut :: r.2.1, if k = draidep then qd else r.2.2)

/-- water.go:877-883 for one layer: EV including the deficit passed down from above, the dryness
limit (a third of the wilting point), the deficit passed further down, and the water the layer can
give (`vcap`).  Result: (EV', carry to the next EV slot, vcap). -/
def evapLayer (dz wdt : α) (carry : Option α) (wa wmin ev0 : α) : α × Option α × α :=
  let ev := match carry with | some c => ev0 + c | none => ev0
  let lim0 := wa - ev * wdt
  if lim0 < (wmin / 3) * dz then
    (wa - wmin / 3 * dz, some (ev - wa + wmin / 3 * dz), wa - wmin / 3 * dz)
  else (ev, none, wa - lim0)

/-- water.go:872-900: evaporation cascade. Input per layer (WATER0, WMIN, EV). Output WATER1,
Q1[k+1…N], EV', carry into the EV slot after the last layer. `a1` is the demand still to be met. -/
def evap (dz wdt : α) : α → Option α → List (α × α × α) → List α × List α × List α × Option α
  | _, carry, [] => ([], [], [], carry)
  | a1, carry, (wa, wmin, ev0) :: rest =>
    let e := evapLayer dz wdt carry wa wmin ev0
    if a1 < e.2.2 then
      -- break: the rest of the profile is untouched (but EV[k+1] already got the deficit)
      let restEv := match rest, e.2.1 with
        | (_, _, e1) :: more, some c => (e1 + c) :: more.map (·.2.2)
        | rs, _ => rs.map (·.2.2)
      let tailCarry := match rest with | [] => e.2.1 | _ => none
      ((wa - a1) :: rest.map (·.1), 0 :: rest.map (fun _ => 0), e.1 :: restEv, tailCarry)
    else
      let r := evap dz wdt (a1 - e.2.2) e.2.1 rest
      ((wa - e.2.2) :: r.1, (-(a1 - e.2.2)) :: r.2.1, e.1 :: r.2.2.1, r.2.2.2)

/-- water.go:908-915: water above field capacity is pushed to the next layer, top-down.
Input (WATER1, W, Q1[i+1]) per layer; `carry` is what the layer above pushed down. -/
def overflow (dz : α) : Option α → List (α × α × α) → List (α × α) × Option α
  | carry, [] => ([], carry)
  | carry, (wa0, w, q) :: rest =>
    let wa := match carry with | some c => wa0 + c | none => wa0
    if w < wa / dz then
      let sink := wa - w * dz
      let r := overflow dz (some sink) rest
      ((w * dz, q + sink) :: r.1, r.2)
    else
      let r := overflow dz none rest
      ((wa, q) :: r.1, r.2)

/-- water.go:924-932: deepest layer (1-based) with nFK < 0.7, 0 if none. -/
def capLayer (nfk : List α) : Nat :=
  let idx := (nfk.zipIdx.filter fun p => p.1 < (0.7 : α)).map (·.2 + 1)
  idx.foldl Nat.max 0

/-- water.go:933-951: the capillary-rise increment (CAPS[idx]·dz·wdt) for layer `caplay`, if any. -/
def capRise (dz wdt grw : α) (caps : List α) (caplay : Nat) : Option α :=
  if caplay = 0 then none else
  let gwdist0 := grw + 1 - Conv.ofNat caplay
  if gwdist0 < 21 then
    let gwdist := if gwdist0 < 0 then 0 else gwdist0
    if (0.9 : α) < gwdist then
      let m := if gwdist < 1 then 1 else gwdist
      let idx := Conv.roundNat m - 1
      some (caps.getD idx 0 * dz * wdt)
    else none
  else none

def addAt (i : Nat) (c : α) : List α → List α
  | [] => []
  | x :: xs => match i with
    | 0 => (x + c) :: xs
    | j + 1 => x :: addAt j c xs

/-- subtract `c` from all entries at positions ≥ i -/
def subFrom (i : Nat) (c : α) : List α → List α
  | [] => []
  | x :: xs => match i with
    | 0 => (x - c) :: subFrom 0 c xs
    | j + 1 => x :: subFrom j c xs

def zip3 : List α → List α → List α → List (α × α × α)
  | a :: as, b :: bs, c :: cs => (a, b, c) :: zip3 as bs cs
  | _, _, _ => []

/-- result of the surface-flux branch -/
structure Surf (α : Type) where
  wa1 : List α
  qTop : α
  qs : List α
  qdrain : α
  ev : List α
  evTail : α

/-- water.go:823-839: uptake limit (first sub-step) and WATER[0]. -/
def phaseUptake (i : In α) : List α × List α :=
  let tp := if i.first then limitTp i.dz i.tp i.wg i.wmin else i.tp
  (tp, water0 i.dz i.wdt i.wg tp)

/-- water.go:840-906: infiltration / evaporation / no flux. -/
def phaseSurface (i : In α) (wa0 : List α) : Surf α :=
  if 0 < i.fluss0 then
    let a := i.fluss0 * i.wdt
    let r := infil i.dz i.draidep i.draifak a 1 (wa0.zip i.w)
    { wa1 := r.1, qTop := a, qs := r.2.1, qdrain := r.2.2, ev := i.ev, evTail := i.evTail }
  else if i.fluss0 < 0 then
    let a := (-i.fluss0) * i.wdt
    let r := evap i.dz i.wdt a none (zip3 wa0 i.wmin i.ev)
    let tail := match r.2.2.2 with | some c => i.evTail + c | none => i.evTail
    { wa1 := r.1, qTop := 0, qs := r.2.1, qdrain := 0, ev := r.2.2.1, evTail := tail }
  else { wa1 := wa0, qTop := i.q0prev, qs := wa0.map (fun _ => (0 : α)), qdrain := 0, ev := i.ev, evTail := i.evTail }

/-- water.go:908-915 -/
def phaseOverflow (i : In α) (s : Surf α) : List α × List α × α :=
  let o := overflow i.dz none (zip3 s.wa1 i.w s.qs)
  (o.1.map (·.1), o.1.map (·.2), match o.2 with | some c => c | none => 0)

/-- water.go:924-951 -/
def phaseCapillary (i : In α) (wa2 qs2 : List α) : List α × List α :=
  let caplay := capLayer i.nfk
  match capRise i.dz i.wdt i.grw i.caps caplay with
  | some c => (addAt (caplay - 1) c wa2, subFrom (caplay - 1) c qs2)
  | none => (wa2, qs2)

/-- One call of `Water`. -/
def step (i : In α) : Out α :=
  let u := phaseUptake i
  let s := phaseSurface i u.2
  let o := phaseOverflow i s
  let c := phaseCapillary i o.1 o.2.1
  let q1 := s.qTop :: c.2
  let qOut := q1.getD i.outn 0
  { wg1 := c.1.map (· / i.dz), tp := u.1, ev := s.ev, evTail := s.evTail, q1 := q1, qdrain := s.qdrain,
    below := o.2.2,
    dSicker := if 0 < qOut then qOut * 10 else 0,
    dCapsum := (if 0 < qOut then 0 else 0 + qOut * 10) - i.gwauf * 10 * i.wdt,   -- accumulators start at 0
    dDraisum := s.qdrain * 10,
    dInfilt := if 0 < i.fluss0 then i.fluss0 * i.wdt else 0,
    dTrans := sumFrom (0 : α) (u.1.map (· * i.wdt)) }

end
end Hermes.Water
