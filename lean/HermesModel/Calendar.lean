/-
Model of the date arithmetic of hermes/helper.go (DateConverter, extractDate, KalenderDate,
KalenderConverter).  Core Lean only; executable (used by the driver) and the subject of the
theorems in HermesProps/C12.lean.

Go `int` is modelled by `Nat`: every quantity is non-negative for year offsets YR ≥ 1 and day
numbers MASDAT ≥ 1, which is what the readers produce for dates from 1901 on (the long formats
`log.Fatal` below 1901; the model returns `none` there).
-/
namespace Hermes.Calendar

/-- `MT` of DateConverter (helper.go:118): cumulated days before each month, non-leap year. -/
def mtStart : List Nat := [0, 31, 59, 90, 120, 151, 181, 212, 243, 273, 304, 334]

/-- `MT` of KalenderDate (helper.go:263): cumulated days up to the end of each month. -/
def mtEnd : List Nat := [31, 59, 90, 120, 151, 181, 212, 243, 273, 304, 334, 365]

/-- Offset of month `mon` (1-based) in year offset `yr` after the leap loop of helper.go:155-161. -/
def monthOffset (yr mon : Nat) : Nat :=
  let b := mtStart.getD (mon - 1) 0
  if yr % 4 == 0 && mon ≥ 3 then b + 1 else b

/-- `masDat` of DateConverter for year offset `yr = year − 1900`. -/
def masdat (yr mon tg : Nat) : Nat :=
  (yr - 1) * 365 + (yr - 1) / 4 + monthOffset yr mon + tg

/-- `ztDat` (day of year) of DateConverter. -/
def ztdat (yr mon tg : Nat) : Nat := monthOffset yr mon + tg

/-- The month search loop of KalenderDate (helper.go:279-290): walk the table, adding `korr`
to every entry but the first, stop at the first entry `≥ tg`.  Running off the table is the
index-out-of-range panic of the Go code (`none`). Returns (MOZ, entry before MOZ as mutated). -/
def monthSearch (tg korr : Nat) : List Nat → Nat → Nat → Option (Nat × Nat)
  | [], _, _ => none
  | m :: rest, moz, prev =>
    let m' := if moz > 1 then m + korr else m
    if tg ≤ m' then some (moz, prev) else monthSearch tg korr rest (moz + 1) m'

/-- Year offset `YR` after the estimate and leap correction of helper.go:264-267. -/
def yearIdx (m : Nat) : Nat :=
  if m % 365 ≤ m / 365 / 4 then m / 365 - 1 else m / 365

/-- `TG` of helper.go:268: day of the year. -/
def dayOfYear (m : Nat) : Nat := m - yearIdx m * 365 - yearIdx m / 4

/-- `KORR` of helper.go:269-278. -/
def korr (yr tg : Nat) : Nat := if (yr + 1) % 4 = 0 then (if tg > 59 then 1 else 0) else 0

/-- KalenderDate (helper.go:262-299): (year, month, day) of a day number. -/
def kalenderDate (m : Nat) : Option (Nat × Nat × Nat) :=
  let yr := yearIdx m
  let tg := dayOfYear m
  match monthSearch tg (korr yr tg) mtEnd 1 0 with
  | none => none
  | some (moz, prev) =>
    let day := if moz > 1 then tg - prev else tg
    some (yr + 1900 + 1, moz, day)

/-! ### text layer -/

inductive DateFormat | deShort | deLong | enShort | enLong
  deriving DecidableEq, Repr

def DateFormat.ofCode : Nat → DateFormat
  | 0 => .deShort | 1 => .deLong | 2 => .enShort | _ => .enLong

def DateFormat.isShort : DateFormat → Bool
  | .deShort | .enShort => true
  | _ => false

def digit (k : Nat) : Char := Char.ofNat (48 + k % 10)

/-- `%02d` for n < 100 (and, like Go, wider when n ≥ 100: not needed for valid dates). -/
def d2 (n : Nat) : List Char := [digit (n / 10), digit n]
/-- `%d` for a four digit year. -/
def d4 (n : Nat) : List Char := [digit (n / 1000), digit (n / 100), digit (n / 10), digit n]

/-- KalenderConverter (helper.go:230-259) for a day number, with separator `sep`. -/
def render (f : DateFormat) (sep : List Char) (m : Nat) : Option (List Char) :=
  match kalenderDate m with
  | none => none
  | some (year, month, day) =>
    let yr := year - 1900
    let yy := if yr > 99 then yr - 100 else yr
    some <| match f with
      | .deLong => d2 day ++ sep ++ d2 month ++ sep ++ d4 year
      | .deShort => d2 day ++ sep ++ d2 month ++ sep ++ d2 yy
      | .enLong => d2 month ++ sep ++ d2 day ++ sep ++ d4 year
      | .enShort => d2 month ++ sep ++ d2 day ++ sep ++ d2 yy

def digitVal? (c : Char) : Option Nat :=
  if '0' ≤ c ∧ c ≤ '9' then some (c.toNat - 48) else none

/-- strconv.ParseInt restricted to unsigned decimal digit strings (what dates contain); anything
else is the `log.Fatal` of ValAsInt (`none`). -/
def parseNat? (cs : List Char) : Option Nat :=
  if cs.isEmpty then none else
  cs.foldl (fun acc c => match acc, digitVal? c with
    | some a, some d => some (a * 10 + d)
    | _, _ => none) (some 0)

def slice (cs : List Char) (a b : Nat) : List Char := (cs.drop a).take (b - a)

/-- extractDate (helper.go:170-198). -/
def extractDate (cs : List Char) (short : Bool) : Option (Nat × Nat × Nat) :=
  let n := cs.length
  let pick (a b c d e f : Nat) : Option (Nat × Nat × Nat) :=
    match parseNat? (slice cs a b), parseNat? (slice cs c d), parseNat? (slice cs e f) with
    | some x, some y, some z => some (x, y, z)
    | _, _, _ => none
  if short then
    if n == 6 then pick 0 2 2 4 4 6
    else if n == 8 then pick 0 2 3 5 6 8
    else none
  else
    if n == 8 then pick 0 2 2 4 4 8
    else if n == 10 then pick 0 2 3 5 6 10
    else none

/-- DateConverter (helper.go:113-168): (ztDat, masDat) of a date text; `none` where the Go code
ends the process (`log.Fatal`) or would index the month table out of range. -/
def parse (f : DateFormat) (cent : Nat) (cs : List Char) : Option (Nat × Nat) :=
  match extractDate cs f.isShort with
  | none => none
  | some (a, b, y) =>
    let (tg, mon) := match f with
      | .deShort | .deLong => (a, b)
      | .enShort | .enLong => (b, a)
    let yr? : Option Nat :=
      if f.isShort then some (if y < cent then y + 100 else y)
      else if y < 1901 then none else some (y - 1900)
    match yr? with
    | none => none
    | some yr =>
      if mon < 1 ∨ mon > 12 ∨ yr < 1 then none
      else some (ztdat yr mon tg, masdat yr mon tg)

/-- Days in month `mon` of year offset `yr` (true Gregorian calendar for 1901…2099). -/
def daysInMonth (yr mon : Nat) : Nat :=
  match mon with
  | 1 => 31 | 2 => if yr % 4 == 0 then 29 else 28 | 3 => 31 | 4 => 30 | 5 => 31 | 6 => 30
  | 7 => 31 | 8 => 31 | 9 => 30 | 10 => 31 | 11 => 30 | 12 => 31 | _ => 0

end Hermes.Calendar
