/-
Model of the adaptive sub-step selection of the day loop (hermes/run.go:513-543 and 596-601):
the time-step class from the surface flux, the refinement from the rain that exceeds the cumulated
free storage of the layers, `WDT = 1/ceil(ZSR)`, `STEPS = round(DT/WDT)`.
Polymorphic in the arithmetic (Num.lean): executed with `Float` by the driver against the probe
stream of real runs, reasoned about over ℚ.
-/
import HermesModel.Num
namespace Hermes.Water

section
variable {α : Type} [Add α] [Sub α] [Mul α] [Div α] [Neg α] [LT α] [DecidableLT α]
  [OfNat α 0] [OfNat α 1] [OfNat α 3] [OfNat α 5] [OfNat α 10] [OfNat α 15] [OfScientific α] [Conv α]

structure SubIn (α : Type) where
  dz : α
  fluss0 : α
  regen : α          -- REGEN[TAG] (rain + irrigation, cm)
  w : List α         -- field capacity per layer
  wg : List α        -- WG[0] per layer

def absv (x : α) : α := if x < 0 then -x else x
def maxv (a b : α) : α := if a < b then b else a

/-- run.go:516-527 -/
def tsFactor (pri : α) : α :=
  if ¬ (5 < pri) then 1 else if ¬ (10 < pri) then 0.5 else if ¬ (15 < pri) then 0.25 else 0.125

/-- run.go:529-542 (the two loops fused; same operation order): cumulated free storage FSCSUM and
the refinement of ZSR. Arguments: running FSCS, running ZSR, layers (W, WG0). -/
def zsrLayers (dz regen : α) : α → α → List (α × α) → α
  | _, zsr, [] => zsr
  | fscs, zsr, (w, wg) :: rest =>
    let fscs' := fscs + (w - wg) * dz
    let zsr' := if w * dz / 3 < regen - fscs' then maxv zsr ((regen - fscs') / (w * dz / 3)) else zsr
    zsrLayers dz regen fscs' zsr' rest

def zsrOf (i : SubIn α) : α :=
  zsrLayers i.dz i.regen 0 (1 / tsFactor (absv (i.fluss0 * i.dz))) (i.w.zip i.wg)

/-- run.go:543, 596-601 with DT = 1: (WDT, STEPS). -/
def substeps (i : SubIn α) : α × Nat :=
  let wdt := 1 / Conv.ceil (zsrOf i)
  if wdt < 1 then (wdt, Conv.roundNat (1 / wdt)) else (1, 1)

end
end Hermes.Water
