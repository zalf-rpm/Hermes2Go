/-
Model of the bookkeeping of mineral fertiliser over a run, as the code is: the sums applied
(`DSUMM`, `NH4Sum`) and the parts already dissolved / nitrified (`UMS`, `NH4UMS`).

Three things touch these four variables (hermes/nitro.go, hermes/run.go):
* a fertiliser application (nitro.go:58-63, first sub-step of the day after the event date):
  `DSUMM += NDIR`, `NH4Sum += NH4N` (the automatic options nitro.go:82-221, 477 add to `DSUMM` only:
  the same event with `nh4n = 0`);
* the call of `mineral` in the first sub-step of every day (nitro.go:289-292), which dissolves a
  share of `DSUMM − UMS` and of `NH4Sum − NH4UMS` in the top mineralisation layer
  (`Mineral.run`, HermesModel/Mineral.lean);
* a measurement day inside the run (run.go:500-501): `DSUMM = 0`, `UMS = 0` (the ammonium pair is
  not reset).
Core Lean only; polymorphic in the arithmetic; executable (driver ops `fertpool.*`).
-/
import HermesModel.Mineral
namespace Hermes.FertPool
open Hermes.Mineral

section
variable {α : Type} [Add α] [Sub α] [Mul α] [Div α] [Neg α] [LT α] [DecidableLT α]
  [OfNat α 0] [OfNat α 1] [OfNat α 2] [OfNat α 100] [OfNat α 1000] [OfNat α 1274] [OfNat α 4242] [OfNat α 74]
  [OfScientific α]

/-- `DSUMM`, `NH4Sum` and the accumulators `mineral` updates (`UMS`, `NH4UMS`, `N2onitsum`, `MINSUM`) -/
structure Pool (α : Type) where
  dsumm : α
  nh4sum : α
  acc : Acc α

inductive Ev (α : Type) where
  /-- fertiliser application: `DSUMM += ndir`, `NH4Sum += nh4n` -/
  | fert (ndir nh4n : α)
  /-- one call of `mineral` on the given mineralisation layers -/
  | mineral (wred : α) (layers : List (Layer α))
  /-- measurement day: `DSUMM = 0`, `UMS = 0` -/
  | measure

def apply (p : Pool α) : Ev α → Pool α
  | .fert nd nh => { p with dsumm := p.dsumm + nd, nh4sum := p.nh4sum + nh }
  | .mineral wred ls => { p with acc := (run p.dsumm p.nh4sum wred ls p.acc).2 }
  | .measure => { p with dsumm := 0, acc := { p.acc with ums := 0 } }

/-- any sequence of applications, `mineral` calls and measurement days -/
def runEvs (p : Pool α) : List (Ev α) → Pool α
  | [] => p
  | e :: es => runEvs (apply p e) es

/-- the pools after every event (what the correspondence compares) -/
def trace (p : Pool α) : List (Ev α) → List (Pool α)
  | [] => []
  | e :: es => apply p e :: trace (apply p e) es

end
end Hermes.FertPool
