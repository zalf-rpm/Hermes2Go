/-
Prelude of the *imperative translation* (DESIGN §4.3, translator v2).

`harness/cmd/extract/imp_translate.go` turns a Go kernel of /repo (assignments to struct fields and array elements,
`if`/`else`, counted `for` loops with `break`, calls of package `math`) into a Lean function `run : MathFns α → St α → St α` over a
generated record `St α` that has one field per variable the kernel touches (`lean/HermesModel/Generated/Imp*.lean`,
regenerated on every run).  This file holds what the generated code needs, and the proof rules for a read after a write and
for the loops (induction over the iterations, invariants):

* `rd` / `wr`     — Go's `a[i]` and `a[i] = v` on `List`s (indices are Go `int`s, modelled as `Int`);
* `loopUp` / `loopDown` — Go's `for i := a; i < b; i++ { … }` and `for i := a; i >= b; i-- { … }` as structural recursions over the
  number of iterations, with the `break` flag of the generated state;
* `MathFns α`     — the functions of Go's package `math` the kernels call.  They are a *parameter* of every translated kernel:
  the driver instantiates them with the C library (`Float`), the theorems quantify over them and state what they need of
  them as hypotheses (`ImpWater.MathOK`, `0 ≤ exp x ≤ 1` for `x ≤ 0`, …).

Faithfulness: the translation follows Go's semantics statement by statement on executions without a run-time panic; an index
outside the list (a Go panic) reads `default` / writes nothing here.  Constant expressions are folded exactly as the Go compiler
does (exact rational value, one rounding) — the translator prints them as a decimal literal or a quotient of two (`24.0 / 53.0`).
Core Lean only; polymorphic in the arithmetic like the hand-written models.
-/
namespace Hermes.Imp

/-- Go's `math` functions used by the translated kernels, and the conversions between `int` and `float64`. -/
structure MathFns (α : Type) where
  exp : α → α
  log : α → α
  pow : α → α → α
  mod : α → α → α
  sqrt : α → α
  sin : α → α
  cos : α → α
  tan : α → α
  asin : α → α
  acos : α → α
  atan : α → α
  abs : α → α
  max : α → α → α
  min : α → α → α
  round : α → α
  floor : α → α
  ceil : α → α
  /-- Go `float64(i)` -/
  ofInt : Int → α
  /-- Go `int(x)`: truncation towards zero -/
  toInt : α → Int

section
variable {β : Type}

/-- Go `a[i] = v` -/
def wr (l : List β) (i : Int) (v : β) : List β := if i < 0 then l else l.set i.toNat v

@[simp] theorem length_wr (l : List β) (i : Int) (v : β) : (wr l i v).length = l.length := by
  unfold wr; split <;> simp

variable [Inhabited β]

/-- Go `a[i]` -/
def rd (l : List β) (i : Int) : β := if i < 0 then default else l.getD i.toNat default

theorem rd_wr_same (l : List β) (i : Int) (v : β) (h0 : 0 ≤ i) (h1 : i.toNat < l.length) : rd (wr l i v) i = v := by
  unfold rd wr
  have : ¬ i < 0 := by omega
  simp [this, List.getD_eq_getElem?_getD, h1]

theorem rd_wr_ne (l : List β) (i j : Int) (v : β) (h : i ≠ j) : rd (wr l i v) j = rd l j := by
  unfold rd wr
  by_cases hj : j < 0
  · simp [hj]
  · by_cases hi : i < 0
    · simp [hi]
    · have : i.toNat ≠ j.toNat := by omega
      simp [hi, hj, List.getD_eq_getElem?_getD, List.getElem?_set_ne this]

theorem rd_wr (l : List β) (i j : Int) (v : β) (h0 : 0 ≤ i) (h1 : i.toNat < l.length) :
    rd (wr l i v) j = if i = j then v else rd l j := by
  by_cases h : i = j
  · subst h; simp [rd_wr_same l i v h0 h1]
  · simp [h, rd_wr_ne l i j v h]

end

section
variable {σ : Type}

/-- `n` iterations of an upward loop starting at `i`; `brk` is the state's break flag -/
def loopUpN (brk : σ → Bool) (body : Int → σ → σ) : Nat → Int → σ → σ
  | 0, _, s => s
  | n + 1, i, s =>
    let s' := body i s
    if brk s' then s' else loopUpN brk body n (i + 1) s'

/-- Go `for i := a; i < b; i++ { body }` (the body does not assign `i`, `a`, `b`) -/
def loopUp (brk : σ → Bool) (a b : Int) (body : Int → σ → σ) (s : σ) : σ :=
  loopUpN brk body (b - a).toNat a s

/-- `n` iterations of a downward loop starting at `i` -/
def loopDownN (brk : σ → Bool) (body : Int → σ → σ) : Nat → Int → σ → σ
  | 0, _, s => s
  | n + 1, i, s =>
    let s' := body i s
    if brk s' then s' else loopDownN brk body n (i - 1) s'

/-- Go `for i := a; i >= b; i-- { body }` -/
def loopDown (brk : σ → Bool) (a b : Int) (body : Int → σ → σ) (s : σ) : σ :=
  loopDownN brk body (a - b + 1).toNat a s

/-- no `break` in the loop -/
def noBrk : σ → Bool := fun _ => false

/-- Invariant rule for a loop without `break`: `P k` holds after `k` iterations. -/
theorem loopUpN_noBrk_ind (body : Int → σ → σ) (P : Nat → σ → Prop) (n : Nat) (a : Int) (s : σ)
    (h0 : P 0 s) (hstep : ∀ k, k < n → ∀ t, P k t → P (k + 1) (body (a + k) t)) :
    P n (loopUpN noBrk body n a s) := by
  induction n generalizing a s P with
  | zero => simpa [loopUpN] using h0
  | succ n ih =>
    simp only [loopUpN, noBrk]
    have h1 : P 1 (body a s) := by simpa using hstep 0 (by omega) s h0
    have := ih (P := fun k t => P (k + 1) t) (a + 1) (body a s) h1
      (fun k hk t ht => by
        have := hstep (k + 1) (by omega) t ht
        simpa [Int.add_assoc, Int.add_comm 1] using this)
    simpa using this

theorem loopUp_noBrk_ind (body : Int → σ → σ) (P : Nat → σ → Prop) (a b : Int) (s : σ)
    (h0 : P 0 s) (hstep : ∀ k, k < (b - a).toNat → ∀ t, P k t → P (k + 1) (body (a + k) t)) :
    P (b - a).toNat (loopUp noBrk a b body s) :=
  loopUpN_noBrk_ind body P _ a s h0 hstep

/-- Invariant rule for any loop (with or without `break`): what every iteration preserves, the loop preserves. -/
theorem loopUpN_inv (brk : σ → Bool) (body : Int → σ → σ) (P : σ → Prop) (h : ∀ i t, P t → P (body i t)) :
    ∀ (n : Nat) (i : Int) (s : σ), P s → P (loopUpN brk body n i s)
  | 0, _, _, hs => hs
  | n + 1, i, s, hs => by
    simp only [loopUpN]
    split
    · exact h i s hs
    · exact loopUpN_inv brk body P h n (i + 1) _ (h i s hs)

theorem loopUp_inv (brk : σ → Bool) (body : Int → σ → σ) (P : σ → Prop) (h : ∀ i t, P t → P (body i t))
    (a b : Int) (s : σ) (hs : P s) : P (loopUp brk a b body s) :=
  loopUpN_inv brk body P h _ a s hs

theorem loopDownN_inv (brk : σ → Bool) (body : Int → σ → σ) (P : σ → Prop) (h : ∀ i t, P t → P (body i t)) :
    ∀ (n : Nat) (i : Int) (s : σ), P s → P (loopDownN brk body n i s)
  | 0, _, _, hs => hs
  | n + 1, i, s, hs => by
    simp only [loopDownN]
    split
    · exact h i s hs
    · exact loopDownN_inv brk body P h n (i - 1) _ (h i s hs)

theorem loopDown_inv (brk : σ → Bool) (body : Int → σ → σ) (P : σ → Prop) (h : ∀ i t, P t → P (body i t))
    (a b : Int) (s : σ) (hs : P s) : P (loopDown brk a b body s) :=
  loopDownN_inv brk body P h _ a s hs

end
end Hermes.Imp
