/-
Model of the two in-place normalisation passes of hermes/weather_input.go (`replaceMissingValues`
:627-692, `transformWeatherData` :597-625) *on the per-year arrays the readers filled*, and of the
whole run with them in place, as the code is:

* `normalise` — the passes on a `Store` whose payload is the six entries of a day the passes read or
  write (`Day`): same loop order, same neighbour positions (`prevPos`, `nextPos`), same cell
  functions (`fillMean`, `fillZero`, `regenT`, `parT`, `windFloor`, `corrMonth ∘ corrDoy`) as the
  grid version in HermesModel/Weather.lean; `MaxYearDays` and `JAR` are read from the store; a slot
  never written reads as the zero value. Only the cells `[y][i]`, y < yrz, i < MaxYearDays[y], are
  rewritten; `JAR`, `MaxYearDays` are untouched.
* `runMultiN` — `ReadWeatherCSV` / `ReadWeatherCZ` (read, then both passes over the `yrz` years
  read), then the day loop of `Run` (HermesModel/DayLoop.lean) on the normalised arrays.
* `runPerYearN` — `WetterK` runs both passes on slot 0 after reading a year file (one year:
  no neighbour outside the file), so the day loop sees the year file with normalised lines.

Core Lean only; polymorphic in the arithmetic; executable (driver ops `wxnorm.*`).
-/
import HermesModel.Weather
import HermesModel.DayLoop
namespace Hermes.Weather

section
variable {α : Type} [Add α] [Mul α] [Div α] [LT α] [DecidableLT α] [BEq α]
  [OfNat α 0] [OfNat α 2] [OfNat α 10] [OfScientific α]

/-- `s.X[y][i]` for the six arrays (zero value where nothing was written) -/
def cellAt (s : Store (Day α)) (y i : Nat) : Day α := (s.get y i).getD zeroDay

/-- assignment to `s.X[y][i]` -/
def setCell (s : Store (Day α)) (y i : Nat) (d : Day α) : Store (Day α) :=
  { s with cells := (y, i, d) :: s.cells }

/-- what the body of the inner loop of `replaceMissingValues` leaves in cell (y, index) -/
def fillValue (nv : α) (maxd : List Nat) (yrz : Nat) (s : Store (Day α)) (y index : Nat) : Day α :=
  let c := cellAt s y index
  let c1 : Day α :=
    match prevPos maxd y index, nextPos maxd yrz y index with
    | some (py, pi), some (ny, ni) =>
      let p := cellAt s py pi
      let n := cellAt s ny ni
      { c with tmp := fillMean nv c.tmp p.tmp n.tmp, verd := fillMean nv c.verd p.verd n.verd,
               sund := fillMean nv c.sund p.sund n.sund }
    | _, _ => { c with tmp := fillZero nv c.tmp, verd := fillZero nv c.verd, sund := fillZero nv c.sund }
  { c1 with sund := fillZero nv c1.sund, radi := fillZero nv c1.radi, reg := fillZero nv c1.reg }

def fillCellS (nv : α) (maxd : List Nat) (yrz : Nat) (s : Store (Day α)) (p : Nat × Nat) : Store (Day α) :=
  setCell s p.1 p.2 (fillValue nv maxd yrz s p.1 p.2)

/-- `replaceMissingValues` on the store -/
def replaceMissingS (nv : α) (maxd : List Nat) (yrz : Nat) (s : Store (Day α)) : Store (Day α) :=
  (cellsOf maxd yrz).foldl (fillCellS nv maxd yrz) s

/-- what the body of the inner loop of `transformWeatherData` leaves in cell (y, index) -/
def transformValue (corr : List α) (jar : List Nat) (s : Store (Day α)) (y index : Nat) : Day α :=
  let c := cellAt s y index
  let leap := daysInYear (jar.getD y 0) == 366
  { c with reg := regenT c.reg (corr.getD (corrMonth (corrDoy leap (index + 1))) 0), radi := parT c.radi,
           win := windFloor c.win }

def transformCellS (corr : List α) (jar : List Nat) (s : Store (Day α)) (p : Nat × Nat) : Store (Day α) :=
  setCell s p.1 p.2 (transformValue corr jar s p.1 p.2)

/-- `transformWeatherData` on the store -/
def transformS (corr : List α) (jar maxd : List Nat) (yrz : Nat) (s : Store (Day α)) : Store (Day α) :=
  (cellsOf maxd yrz).foldl (transformCellS corr jar) s

/-- both passes over the first `yrz` year slots, as the readers call them -/
def normalise (nv : α) (corr : List α) (yrz : Nat) (s : Store (Day α)) : Store (Day α) :=
  let maxd := (List.range yrz).map s.maxAt
  let jar := (List.range yrz).map s.jarAt
  transformS corr jar maxd yrz (replaceMissingS nv maxd yrz s)

/-- the lines of one year file as `WetterK` leaves them in slot 0 (both passes with `yrz = 1`) -/
def normLines (nv : α) (corr : List α) (year : Nat) (ls : List (Nat × Day α)) : List (Nat × Day α) :=
  let s := normalise nv corr 1 (readYearFile year {} (some ls)).1
  ls.map fun l => (l.1, cellAt s 0 (l.1 - 1))

end
end Hermes.Weather

namespace Hermes.DayLoop
open Hermes.Weather

section
variable {α : Type} [Add α] [Mul α] [Div α] [LT α] [DecidableLT α] [BEq α]
  [OfNat α 0] [OfNat α 2] [OfNat α 10] [OfScientific α]

/-- Whole run with a multi-year file (layouts 1, 2), normalisation passes included. -/
def runMultiN (nv : α) (corr : List α) (recs : List (Rec (Day α))) (anjahr cap beginn itag ndays : Nat) :
    Option (List (DayOut (Day α))) :=
  match readMulti anjahr cap recs with
  | none => none
  | some ms =>
    match initState (.multi cap) (normalise nv corr ms.yrz ms.store) anjahr beginn itag with
    | none => none
    | some st => runLoop (.multi cap) ndays st

/-- Whole run with one file per year (layout 0), normalisation passes included. -/
def runPerYearN (nv : α) (corr : List α) (files : Nat → Option (List (Nat × Day α))) (anjahr beginn itag ndays : Nat) :
    Option (List (DayOut (Day α))) :=
  runPerYear (fun y => (files y).map (normLines nv corr y)) anjahr beginn itag ndays

/-- `hasVERD` / `hasSUND` of the run's weather store once the year files of `anjahr … year` have been read: `WetterK`
raises a flag when it sees a value that is not the missing-value code and nothing lowers it (weather_input.go:165-171). -/
def seenOptional (nv : α) (files : Nat → Option (List (Nat × Day α))) (anjahr year : Nat) : Bool × Bool :=
  ((List.range (year + 1 - anjahr)).map (· + anjahr)).foldl (fun acc y =>
    match files y with
    | none => acc
    | some ls => (acc.1 || ls.any (fun l => !(l.2.verd == nv)), acc.2 || ls.any (fun l => !(l.2.sund == nv)))) (false, false)

/-- `LoadYear` copies VERD / SUND into the model's day arrays only while the flag is up (weather_input.go:733-738); the
arrays start at zero. -/
def loadOptional (has : Bool × Bool) (d : Day α) : Day α :=
  { d with verd := if has.1 then d.verd else 0, sund := if has.2 then d.sund else 0 }

/-- Layout 0 as the model's day arrays see it: `runPerYearN` with the optional columns gated by the has-column flags. -/
def runPerYearL (nv : α) (corr : List α) (files : Nat → Option (List (Nat × Day α))) (anjahr beginn itag ndays : Nat) :
    Option (List (DayOut (Day α))) :=
  (runPerYearN nv corr files anjahr beginn itag ndays).map fun ds =>
    ds.map fun d => { d with val := d.val.map (loadOptional (seenOptional nv files anjahr (1900 + d.j))) }

end
end Hermes.DayLoop
