/-
Model of the two readers of the measurement (initial value) file at the post-tokenisation layer:
ExtractMeasuredDataTxt (input.go:753-904) and ExtractMeasuredDataCSV (input.go:906-1148).
Only the first record of the selected plot initialises the state: water content of every 10 cm
layer from six depth classes (three ways of reading the number, column M), mineral N per layer
from six depth classes, and the water sum WNZ.  Core Lean only, polymorphic arithmetic.
-/
namespace Hermes.Measure

section
variable {α : Type} [Add α] [Sub α] [Mul α] [Div α] [OfNat α 0] [OfNat α 3] [OfNat α 5]
  [OfNat α 100] [OfNat α 300] [OfScientific α]

/-- depth class of the water value used for layer `zi` (1-based) in the text reader
(input.go:809-858); `none`: the chain of tests assigns nothing. -/
def wClassTxt (zi : Nat) : Option Nat :=
  if zi < 4 then some 0
  else if zi > 3 ∧ zi < 7 then some 1
  else if zi > 6 ∧ zi < 10 then some 2
  else if zi > 9 ∧ zi < 13 then some 3
  else if zi > 12 ∧ zi < 16 then some 4
  else if zi > 15 then some 5
  else none

/-- the same chain in the CSV reader (input.go:1055-1104) -/
def wClassCsv (zi : Nat) : Option Nat :=
  if zi < 4 then some 0
  else if zi > 3 ∧ zi < 7 then some 1
  else if zi > 6 ∧ zi < 10 then some 2
  else if zi > 9 ∧ zi < 13 then some 3
  else if zi > 12 ∧ zi < 16 then some 4
  else if zi > 15 then some 5
  else none

/-- depth class and divisor of the mineral-N value of layer `i` (1-based), text reader
(input.go:876-891) -/
def nClassTxt (i : Nat) : Nat × Nat :=
  if i < 4 then (0, 3)
  else if i > 3 ∧ i < 7 then (1, 3)
  else if i > 6 ∧ i < 10 then (2, 3)
  else if i > 9 ∧ i < 13 then (3, 3)
  else if i > 12 ∧ i < 16 then (4, 3)
  else (5, 5)

/-- CSV reader (input.go:1122-1137) -/
def nClassCsv (i : Nat) : Nat × Nat :=
  if i < 4 then (0, 3)
  else if i > 3 ∧ i < 7 then (1, 3)
  else if i > 6 ∧ i < 10 then (2, 3)
  else if i > 9 ∧ i < 13 then (3, 3)
  else if i > 12 ∧ i < 16 then (4, 3)
  else (5, 5)

/-- factor of reading "2" (weight-% × bulk density) per depth class -/
def factor2 (c : Nat) : α := if c = 0 then 1.4 else if c = 1 then 1.5 else 1.6

/-- water content of one layer: column M = "3" absolute, "2" × factor, otherwise the fraction of
the plant-available water -/
def wgOf (mode c : Nat) (winit : List α) (w wmin : α) : α :=
  let x := winit.getD c 0
  if mode = 3 then x else if mode = 2 then x * factor2 c else wmin + (w - wmin) * x

/-- WG[2][0…N−1] with layer counter `zi`; a layer whose class is `none` keeps the old value `0` -/
def wgRow (cls : Nat → Option Nat) (mode : Nat) (winit : List α) : Nat → List α → List α → List α
  | zi, w :: ws, m :: ms =>
    (match cls zi with
     | some c => wgOf mode c winit w m
     | none => 0) :: wgRow cls mode winit (zi + 1) ws ms
  | _, _, _ => []

def divisor (d : Nat) : α := if d = 3 then 3 else 5

def cnRow (cls : Nat → Nat × Nat) (konz : List α) : Nat → Nat → List α
  | _, 0 => []
  | i, n + 1 => (konz.getD (cls i).1 0 / divisor (cls i).2) :: cnRow cls konz (i + 1) n

def sum9 (l : List α) : α :=
  (List.range 9).foldl (fun acc i => acc + l.getD i 0) 0

/-- WNZ[0] (input.go:861-868) -/
def wnz (mode : Nat) (winit : List α) (row : List α) : α :=
  let a := winit.getD 0 0
  let b := winit.getD 1 0
  let c := winit.getD 2 0
  if mode = 3 then (a + b + c) * 300
  else if mode = 2 then (a * 1.4 + b * 1.5 + c * 1.6) * 300
  else sum9 row * 100

structure Out (α : Type) where
  wg : List α     -- WG[2][0…N]
  cn : List α     -- CN[1][0…N−1]
  wnz : α

/-- tokens of the first record in the text file: the nine mandatory columns and, when the line
has more than nine tokens, the six columns of the deeper classes (input.go:788-805) -/
structure Txt (α : Type) where
  mode : Nat          -- 3, 2, or anything else
  k : List α          -- Nm03 Nm36 Nm69
  w : List α          -- W0_3 W3_6 W6_9
  deep : Option (List α × List α)   -- (NM9-12 NM12-15 NM15-20, W9-12 W12-15 W15-20)

def initOf (clsW : Nat → Option Nat) (clsN : Nat → Nat × Nat) (mode : Nat) (winit konz : List α)
    (w wmin : List α) : Out α :=
  let row := wgRow clsW mode winit 1 w wmin
  let full := row ++ [row.getLastD 0]
  { wg := full, cn := cnRow clsN konz 1 w.length, wnz := wnz mode winit full }

def readTxt (t : Txt α) (w wmin : List α) : Out α :=
  let (kd, wd) := t.deep.getD ([0, 0, 0], [0, 0, 0])
  initOf wClassTxt nClassTxt t.mode (t.w ++ wd) (t.k ++ kd) w wmin

/-- tokens of the first record in the CSV file. The six deeper columns are optional: they are
looked up through the header map and read only when the header names them (input.go:1012-1051). -/
structure Csv (α : Type) where
  mode : Nat
  k : List α
  w : List α
  hasDeepHeader : Bool
  deepK : List (Option α)   -- TryValAsFloat of the three deep N tokens (when the header has them)
  deepW : List (Option α)

def Csv.opt (c : Csv α) (toks : List (Option α)) (j : Nat) : α :=
  if c.hasDeepHeader then ((toks.getD j none).getD 0) else 0

def readCsv (c : Csv α) (w wmin : List α) : Out α :=
  initOf wClassCsv nClassCsv c.mode
    (c.w ++ [c.opt c.deepW 0, c.opt c.deepW 1, c.opt c.deepW 2])
    (c.k ++ [c.opt c.deepK 0, c.opt c.deepK 1, c.opt c.deepK 2]) w wmin

/-- the text record with the same content: all six deep columns, or none of them -/
def Csv.toTxt (c : Csv α) : Txt α :=
  { mode := c.mode, k := c.k, w := c.w,
    deep := if c.hasDeepHeader then
      some ([(c.deepK.getD 0 none).getD 0, (c.deepK.getD 1 none).getD 0, (c.deepK.getD 2 none).getD 0],
            [(c.deepW.getD 0 none).getD 0, (c.deepW.getD 1 none).getD 0, (c.deepW.getD 2 none).getD 0])
      else none }

end
end Hermes.Measure
