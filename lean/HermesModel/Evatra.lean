/-
Model of the partition part of `Evatra` (hermes/water.go:18-663, line numbers of the tree with
the potential-ET floor): everything after the potential evapotranspiration of the chosen method
has been computed — the floor at zero and the daily caps (291-298, 464-479), the split by leaf
area (299-302, 472-474), the soil-dryness reduction function REDEV(PROZ) (74-92), the fraction of
usable field capacity (93-99), the distribution of evaporation over depth (484-510), the
root-activity and reduction tables (527-559), the air-deficit reduction (569-586), the
distribution of transpiration over the rooted layers above groundwater (591-601), the deficit
redistribution loop (604-643) and the relative ratios handed to the crop model (645-662).

The potential ET of the chosen method (`verdu0`, one of five formulas with `exp`, `pow`, `sqrt`,
`sin`, `asin`, `acos`) and every transcendental coefficient (`elai = exp(-.5·LAI)`,
`expc i = exp(-PROP·.1·((i+1)·10 − DZ/2))`) are inputs.  Constant sub-expressions which the Go
compiler folds exactly (`1 - .33`, `.33 - .22`, `.22 - .2`) are written as the folded literal, so
that the `Float` instantiation performs the same roundings as the compiled code.
Polymorphic in the arithmetic (see Num.lean); every Go loop is a structural recursion over a list.
-/
import HermesModel.Num
namespace Hermes.Evatra

section
variable {α : Type} [Add α] [Sub α] [Mul α] [Div α] [Neg α] [LT α] [DecidableLT α]
  [OfNat α 0] [OfNat α 1] [OfNat α 3] [OfNat α 4] [OfScientific α] [Conv α]

/-- Inputs of the partition part of one `Evatra` call. Lists have one entry per layer (length N). -/
structure In (α : Type) where
  dz : α                  -- DZ.Num
  dt : α                  -- DT.Num
  dtIdx : Nat             -- DT.Index
  crop : Bool             -- the vegetation condition of water.go:132-133 / 525-526
  verdu0 : α              -- raw potential ET of the chosen method, before floor and cap (cm/d)
  elai : α                -- exp(-.5·LAI)
  regen : α               -- REGEN[TAG] (cm)
  wg : List α             -- WG[0][i]
  w0 : α                  -- W[0]
  wmin : List α
  wnor : List α
  expc : List α           -- exp(-PROP·.1·((i+1)·10 − DZ/2))
  wudich : List α         -- root length density
  wurz : Nat              -- WURZ
  grw : α                 -- GRW
  p0 : α                  -- PORGES[0..2]
  p1 : α
  p2 : α
  g0 : α                  -- the array slots WG[0][0..2] (equal to `wg` when N ≥ 3)
  g1 : α
  g2 : α
  lukrit : α              -- LUKRIT[INTWICK]
  lumday : Nat            -- LUMDAY
  trrelPrev : α           -- TRREL, ETREL before the call (kept on some branches)
  etrelPrev : α

structure Out (α : Type) where
  verdu : α               -- potential ET after floor and cap
  evmax : α
  tramax : α
  redev : α
  eta : α
  eva : α                 -- EVA[TAG]
  fluss0 : α
  ev : List α
  nfk : List α
  tp0 : List α            -- TP after the first distribution (before the redistribution loop)
  tp : List α
  tpakt : α
  gwauf : α
  lured : α               -- LURED (previous value is not modelled on bare soil: reported as 1)
  lumday : Nat
  etrel : α
  trrel : α
  wurz : Nat

/-- water.go:74-92: share of evaporable water in the top layer and the reduction factor. -/
def proz (wg0 regen dz wmin0 w0 : α) : α :=
  let wob0 := wg0 + regen / dz
  let wob := if wob0 < wmin0 / 3 then wmin0 / 3 else wob0
  let p := (wob - wmin0 / 3) / (w0 - wmin0 / 3)
  if 1 < p then 1 else p

def redev (p : α) : α :=
  if (0.33 : α) < p then 1 - ((0.1 : α) * (1 - p) / (0.67 : α))
  else if (0.22 : α) < p then (0.9 : α) - ((0.625 : α) * ((0.33 : α) - p) / (0.11 : α))
  else if (0.2 : α) < p then (0.275 : α) - ((0.225 : α) * ((0.22 : α) - p) / (0.02 : α))
  else (0.05 : α) - ((0.05 : α) * ((0.2 : α) - p) / (0.2 : α))

def clamp0 (x : α) : α := if x < 0 then 0 else x

/-- water.go:93-99. The top layer's value is re-assigned in every pass of the loop *before* the
clamp of layer i, so with more than one layer it ends unclamped. -/
def nfkRest : List α → List α → List α → List α
  | g :: gs, m :: ms, n :: ns => clamp0 ((g - m) / (n - m)) :: nfkRest gs ms ns
  | _, _, _ => []

def nfk (regen dz : α) : List α → List α → List α → List α
  | g :: gs, m :: ms, n :: ns =>
    let top := (g + regen / dz - m) / (n - m)
    match gs with
    | [] => [clamp0 top]
    | _ => top :: nfkRest gs ms ns
  | _, _, _ => []

/-- water.go:291-302 / 464-479: floor at zero, cap and split. `verdu0` is the raw value of the
chosen method; the floored and capped value is what the day uses. Result (VERDU, EVMAX, TRAMAX). -/
def capSplit (crop : Bool) (verdu0 elai : α) : α × α × α :=
  let vf := if verdu0 < 0 then 0 else verdu0
  if crop then
    let v := if (0.65 : α) < vf then (0.65 : α) else vf
    let e := v * elai
    let e' := if (0.65 : α) < e then (0.65 : α) else e
    (v, e', v - e)
  else
    let v := if (0.6 : α) < vf then (0.6 : α) else vf
    let e' := if (0.65 : α) < v then (0.65 : α) else v
    (v, e', 0)

/-- water.go:492-496 -/
def evVar : List α → List α → List α → List α
  | g :: gs, m :: ms, c :: cs => (if 0 < g - m / 3 then (g - m / 3) * c else 0) :: evVar gs ms cs
  | _, _, _ => []

/-- water.go:489-510: evaporation per layer. -/
def evDist (eva dt : α) (n : Nat) (vars : List α) : List α :=
  if 0 < eva then
    let s := sumFrom (0 : α) vars
    vars.map fun v => if 0 < s then eva * v / s * dt else 0
  else List.replicate n 0

/-- water.go:528-541 -/
def trred (x : α) : α :=
  clamp0 (if x < (0.15 : α) then x * 3
    else if x < (0.3 : α) then (0.45 : α) + ((0.25 : α) * (x - (0.15 : α)) / (0.15 : α))
    else if x < (0.5 : α) then (0.7 : α) + ((0.275 : α) * (x - (0.3 : α)) / (0.2 : α))
    else if x < (0.75 : α) then (0.975 : α) + ((0.025 : α) * (x - (0.5 : α)) / (0.25 : α))
    else 1)

/-- water.go:542-553 -/
def wueffRaw (x : α) : α :=
  clamp0 (if x < (0.15 : α) then (0.15 : α) + (0.45 : α) * x / (0.15 : α)
    else if x < (0.3 : α) then (0.6 : α) + ((0.2 : α) * (x - (0.15 : α)) / (0.15 : α))
    else if x < (0.5 : α) then (0.8 : α) + ((0.2 : α) * (x - (0.3 : α)) / (0.2 : α))
    else 1)

/-- one layer of the uptake computation -/
structure Lay (α : Type) where
  tp : α
  wg : α
  wmin : α
  trred : α
  wueff : α
  wudich : α

/-- water.go:527-559: layers 1..WURZ get table values (WUEFF = 0 below groundwater), the others 0.
`k` is the 1-based layer number. -/
def mkLays (wurz : Nat) (grw : α) : Nat → List α → List α → List α → List α → List (Lay α)
  | k, g :: gs, m :: ms, x :: xs, d :: ds =>
    let inRoot := decide (k ≤ wurz)
    let wu := if inRoot then (if grw < Conv.ofNat k then 0 else wueffRaw x) else 0
    { tp := 0, wg := g, wmin := m, trred := if inRoot then trred x else 0, wueff := wu, wudich := d }
      :: mkLays wurz grw (k + 1) gs ms xs ds
  | _, _, _, _, _ => []

/-- WEFF: Σ WUEFF·WUDICH over the first WURZ layers, in loop order. -/
def weffSum (wurz : Nat) (ls : List (Lay α)) : α :=
  sumFrom (0 : α) ((ls.take wurz).map fun l => l.wueff * l.wudich)

/-- water.go:569-586. Result (LURED, LUMDAY). -/
def lured (i : In α) : α × Nat :=
  let lupor := (i.p0 + i.p1 + i.p2 - i.g0 - i.g1 - i.g2) / 3
  if 0 < i.lukrit ∧ lupor < i.lukrit then
    let ld0 := i.lumday + i.dtIdx
    let ld := if 4 < ld0 then 4 else ld0
    let lp := if lupor < 0 then 0 else lupor
    let lurmax := lp / i.lukrit
    let r := 1 - Conv.ofNat ld / 4 * (1 - lurmax)
    (if 1 < r then 1 else r, ld)
  else (1, 0)

/-- math.Min(float64(WURZ), GRW) -/
def minRootGw (wurz : Nat) (grw : α) : α :=
  if grw < Conv.ofNat wurz then grw else Conv.ofNat wurz

/-- water.go:591-601: first distribution of the potential transpiration. -/
def tpInit (tramax weff lr minv : α) : Nat → List (Lay α) → List (Lay α)
  | _, [] => []
  | k, l :: ls =>
    let t := if minv < Conv.ofNat k then 0
             else if 0 < l.wueff * l.wudich then tramax * l.wueff * l.wudich / weff * lr else 0
    { l with tp := t } :: tpInit tramax weff lr minv (k + 1) ls

/-- water.go:627-632: the share of `trest` handed to the next `k` layers. -/
def addShare (trest weffrest : α) : Nat → List (Lay α) → List (Lay α)
  | 0, ls => ls
  | _, [] => []
  | k + 1, l :: ls =>
    (if 0 < weffrest then { l with tp := l.tp + trest * l.wueff * l.wudich / weffrest } else l)
      :: addShare trest weffrest k ls

/-- water.go:608-624: the part of a layer's uptake that it cannot deliver. -/
def trest (dz : α) (l : Lay α) : α :=
  let tdeft :=
    if l.wg - l.wmin < l.tp / dz then
      let d0 := (l.tp / dz - (l.wg - l.wmin)) * dz
      let d1 := if d0 < 0 then 0 else d0
      if l.tp / dz < d1 then l.tp / dz else d1
    else 0
  let tdred := l.tp * (1 - l.trred)
  let r := if tdred < tdeft then tdeft else tdred      -- math.Max(TDRED, TDEFT)
  if l.tp < r then l.tp else r

/-- water.go:604-643: the redistribution loop `for i := 1; i <= int(min); i++` as a recursion on
the number `cnt` of iterations still to run; `i` is the current 1-based layer and the list holds
the layers from `i` on.  Result: new TP of these layers, TPAKT, GWAUF. -/
def redist (dz minv grw : α) : Nat → Nat → α → α → α → List (Lay α) → List α × α × α
  | 0, _, _, tpakt, gwauf, ls => (ls.map (·.tp), tpakt, gwauf)
  | _ + 1, _, _, tpakt, gwauf, [] => ([], tpakt, gwauf)
  | cnt + 1, i, weffrest, tpakt, gwauf, l :: ls =>
    let wr := weffrest - l.wueff * l.wudich
    let tr := trest dz l
    let ls' := if 0 < tr ∧ Conv.ofNat i < minv then addShare tr wr cnt ls else ls
    let t := clamp0 (l.tp - tr)
    let fi : α := Conv.ofNat i
    let gw := if fi < grw ∨ grw < fi then gwauf else t      -- float64(i) == GRW
    let r := redist dz minv grw cnt (i + 1) wr (tpakt + t) gw ls'
    (t :: r.1, r.2.1, r.2.2)

/-- The partition part of one call of `Evatra`. -/
def partition (i : In α) : Out α :=
  let n := i.wg.length
  let wg0 := i.wg.headD 0
  let wmin0 := i.wmin.headD 0
  let rd := redev (proz wg0 i.regen i.dz wmin0 i.w0)
  let nf := nfk i.regen i.dz i.wg i.wmin i.wnor
  let cs := capSplit i.crop i.verdu0 i.elai
  let verdu := cs.1
  let evmax := cs.2.1
  let tramax := cs.2.2
  let eva := evmax * rd - i.regen
  let eta := evmax * rd
  let ev := evDist eva i.dt n (evVar i.wg i.wmin i.expc)
  let fluss0 := -eva
  if i.crop then
    let lays := mkLays i.wurz i.grw 1 i.wg i.wmin nf i.wudich
    let weff := weffSum i.wurz lays
    let lr := lured i
    let minv := minRootGw i.wurz i.grw
    let l0 := tpInit tramax weff lr.1 minv 1 lays
    let r := redist i.dz minv i.grw (Conv.truncNat minv) 1 weff 0 0 l0
    let tpakt := r.2.1
    let etrel0 := if 0 < verdu then (tpakt + eta) / verdu else 1
    { verdu, evmax, tramax, redev := rd, eta, eva, fluss0, ev, nfk := nf, tp0 := l0.map (·.tp), tp := r.1,
      tpakt, gwauf := r.2.2, lured := lr.1, lumday := lr.2,
      etrel := if 1 < etrel0 then 1 else etrel0,
      trrel := if 0 < tramax then tpakt / tramax else i.trrelPrev, wurz := i.wurz }
  else
    { verdu, evmax, tramax, redev := rd, eta, eva, fluss0, ev, nfk := nf, tp0 := List.replicate n 0,
      tp := List.replicate n 0, tpakt := 0, gwauf := 0, lured := 1, lumday := i.lumday,
      etrel := i.etrelPrev, trrel := 1, wurz := 0 }

end
end Hermes.Evatra
