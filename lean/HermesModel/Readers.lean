/-
Model of the schedule readers of hermes/input.go (irrigation 308-324, tillage 654-673,
fertiliser 683-…, rotation 413-…): an outer loop over the lines of the file and an inner
`for ok := …; ok; ok = SCHLAG == g.PKT && valid` loop over the consecutive lines of the run's field,
both driven by `NextLineInut` (helper.go:30-41).  The loops are transcribed with explicit fuel
(`none` = fuel exhausted), so that "the reader terminates" is a theorem — every iteration consumes
a line — and not a property of how the model happens to be written.  Core Lean only.
-/
namespace Hermes.Readers

/-- one record line: field id and an abstract payload -/
structure Rec where
  id : Nat
  payload : Nat
  deriving DecidableEq, Repr

/-- A line of the file as `NextLineInut` sees it: `none` = fewer tokens than the id column needs
(`valid = false`, e.g. a blank line or the closing `end`-less tail). -/
abbrev Line := Option Rec

/-- `NextLineInut` (helper.go:30-41): at end of file `scanner.Scan()` is false, `valid = false`. -/
def nextLine : List Line → Line × List Line
  | [] => (none, [])
  | x :: r => (x, r)

/-- The inner loop: `for ok := SCHLAG == PKT; ok; ok = SCHLAG == PKT && valid { use the line;
SCHLAG, tokens, valid = NextLineInut(…) }`. Returns the line it stopped at, the unread rest and the
records used. -/
def inner (pkt : Nat) : Nat → Line → List Line → List Rec → Option (Line × List Line × List Rec)
  | 0, _, _, _ => none
  | fuel + 1, cur, rest, acc =>
    match cur with
    | none => some (cur, rest, acc)
    | some r =>
      if r.id = pkt then inner pkt fuel (nextLine rest).1 (nextLine rest).2 (acc ++ [r])
      else some (cur, rest, acc)

/-- The outer loop: `for SCHLAG, tokens, valid := NextLineInut(…); valid; SCHLAG, tokens, valid =
NextLineInut(…) { inner loop }`. -/
def outer (pkt : Nat) : Nat → Line → List Line → List Rec → Option (List Rec)
  | 0, _, _, _ => none
  | fuel + 1, cur, rest, acc =>
    match cur with
    | none => some acc
    | some _ =>
      match inner pkt fuel cur rest acc with
      | none => none
      | some (_, rest', acc') => outer pkt fuel (nextLine rest').1 (nextLine rest').2 acc'

/-- A reader: header lines are skipped with `LineInut` before, then the loops run. -/
def readSchedule (pkt : Nat) (fuel : Nat) (lines : List Line) : Option (List Rec) :=
  outer pkt fuel (nextLine lines).1 (nextLine lines).2 []

end Hermes.Readers
