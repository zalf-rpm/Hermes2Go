/-
Model of the assignment of the soil hydraulic parameters (property C15), a transcription of the Go
code as it is:

* the four pedotransfer functions `PTF1..4`            hermes/input.go:1150-1187
* the explicit route and the table route per layer     hermes/input.go:193-275
* `Hydro` (HYPAR.TRU row × density class, organic-matter and groundwater corrections)
                                                       hermes/input.go:1227-1252, 1254-1452
* `calcWRed`, `setFieldCapacityWithGW`                 hermes/init.go:90-109
* backups and the saturated zone at input time         hermes/input.go:276-292
* the groundwater-change step of the day loop          hermes/run.go:377-428

Polymorphic in the arithmetic (see Num.lean): instantiated at `Float` in the driver and at `ℚ` in
the proofs.  Every numeric constant is written as a decimal literal (`OfScientific`), so the two
interpretations need no other literal class.  The HYPAR.TRU rows come from the regenerated
`Generated/HyparFacts.lean`; texture names are lists of character codes.

`math.Pow(x,2)`, `math.Pow(x,3)` (PTF4): Go's `Pow` with an integral exponent multiplies the
mantissas by repeated squaring, which for the exponents 2 and 3 is exactly `x*x` and `x*(x*x)` in
IEEE arithmetic; the correspondence check compares bit patterns, so this reading is tested.

Not transcribed (outside C15): CAPS from PARCAP.TRU, IZM, PROP, WUMAX; the `FELDW == 0` fallback to
the previous horizon (input.go:199-201) — unreachable for density classes 1-5 because every cell of
the table has a non-zero corrected field capacity (proved as part of the table theorem).
-/
import HermesModel.Num
import HermesModel.Generated.HyparFacts
namespace Hermes.SoilParams

section
variable {α : Type} [Add α] [Sub α] [Mul α] [Div α] [Neg α] [LT α] [DecidableLT α]
  [OfScientific α] [Conv α]

/-! ### pedotransfer functions (input.go:1150-1187) -/

/-- `PTF1` (Toth 2015): (field capacity, wilting point) from C_org, clay, silt in percent. -/
def ptf1 (c ton sluf : α) : α × α :=
  let u : α := 1.0 / (c + 1.0)
  (0.2449 - 0.1887 * u + 0.004527 * ton + 0.001535 * sluf + 0.001442 * sluf * u
      - 0.0000511 * sluf * ton + 0.0008676 * ton * u,
   0.09878 + 0.002127 * ton - 0.0008366 * sluf - 0.0767 * u + 0.00003853 * sluf * ton
      + 0.00233 * ton * u + 0.0009498 * sluf * u)

/-- `PTF2` (Batjes, pF 2.5) -/
def ptf2 (c ton sluf : α) : α × α :=
  ((0.46 * ton + 0.3045 * sluf + 2.0703 * c) / 100.0,
   (0.3624 * ton + 0.117 * sluf + 1.6054 * c) / 100.0)

/-- `PTF3` (Batjes, pF 1.7) -/
def ptf3 (c ton sluf : α) : α × α :=
  ((0.6681 * ton + 0.2614 * sluf + 2.215 * c) / 100.0,
   (0.3624 * ton + 0.117 * sluf + 1.6054 * c) / 100.0)

/-- `math.Pow(x, 2)` -/
def pow2 (x : α) : α := x * x
/-- `math.Pow(x, 3)` -/
def pow3 (x : α) : α := x * (x * x)

/-- the polynomial of `PTF4` for the field capacity, in the scaled variables -/
def ptf4FcPoly (ix ix2 ix3 yps yps2 yps3 zet zet2 zet3 : α) : α :=
  (29.7528 + 10.3544 * (0.0461615 + 0.290955 * ix - 0.0496845 * ix2 + 0.00704802 * ix3 + 0.269101 * yps
    - 0.176528 * ix * yps + 0.0543138 * ix2 * yps + 0.1982 * yps2 - 0.060699 * yps3 - 0.320249 * zet
    - 0.0111693 * ix2 * zet + 0.14104 * yps * zet + 0.0657345 * ix * yps * zet - 0.102026 * yps2 * zet
    - 0.04012 * zet2 + 0.160838 * ix * zet2 - 0.121392 * yps * zet2 - 0.061667 * zet3)) / 100.0

/-- the polynomial of `PTF4` for the wilting point — note the product `0.104875*zet2*0.0159857*ix*zet2`
(input.go:1185 has `*` where the published regression has `+`); the model follows the code. -/
def ptf4WpPoly (ix ix2 ix3 yps yps2 yps3 zet zet2 zet3 : α) : α :=
  (14.2568 + 7.36318 * (0.06865 + 0.108713 * ix - 0.0157225 * ix2 + 0.00102805 * ix3 + 0.886569 * yps
    - 0.223581 * ix * yps + 0.0126379 * ix2 * yps + 0.0135266 * ix * yps2 - 0.0334434 * yps3
    - 0.0535182 * zet - 0.0354271 * ix * zet - 0.00261313 * ix2 * zet - 0.154563 * yps * zet
    - 0.0160219 * ix * yps * zet - 0.0400606 * yps2 * zet - 0.104875 * zet2 * 0.0159857 * ix * zet2
    - 0.0671656 * yps * zet2 - 0.0260699 * zet3)) / 100.0

/-- `PTF4` (Rawls et al. 2003, pF 2.5): from C_org, clay, sand in percent. -/
def ptf4 (c ton ssand : α) : α × α :=
  let ix : α := -0.837531 + 0.430183 * c
  let yps : α := -1.40744 + 0.0661969 * ton
  let zet : α := -1.51866 + 0.0393284 * ssand
  (ptf4FcPoly ix (pow2 ix) (pow3 ix) yps (pow2 yps) (pow3 yps) zet (pow2 zet) (pow3 zet),
   ptf4WpPoly ix (pow2 ix) (pow3 ix) yps (pow2 yps) (pow3 yps) zet (pow2 zet) (pow3 zet))

/-- dispatch of input.go:249-263; `x` is silt for PTF 1-3 and sand for PTF 4.  Any other selector
leaves W and WMIN at their zero values. -/
def ptf (k : Nat) (c ton sluf ssand : α) : α × α :=
  if k = 1 then ptf1 c ton sluf
  else if k = 2 then ptf2 c ton sluf
  else if k = 3 then ptf3 c ton sluf
  else if k = 4 then ptf4 c ton ssand
  else (0.0, 0.0)

/-! ### the threshold helper (init.go:100-109) -/

/-- `calcWRed`: expects percent values; `sand` = first character of the top texture is `S`. -/
def calcWRed (sand : Bool) (wp fc : α) : α :=
  (if sand then wp + 0.6 * (fc - wp) else wp + 0.66 * (fc - wp)) / 100.0

/-! ### `Hydro` (input.go:1227-1452) -/

/-- texture classes `Hydro` distinguishes when it corrects the table values -/
inductive TexClass where
  | sLight   -- S*: "SL2", second letter U, "SG ", "SM ", "SF "  (input.go:1271)
  | sOther   -- every other S*
  | u        -- U*
  | l        -- L*
  | tPure    -- "T  ", " T ", "  T"
  | tu23     -- "TU2", "TU3"
  | tu4      -- "TU4"
  | tOther   -- every other T*
  | h        -- H*
  | other
  deriving DecidableEq, Repr

/-- character codes: S 83, U 85, L 76, T 84, H 72, G 71, M 77, F 70, space 32, '2' 50, '3' 51, '4' 52,
lower-case u 117 -/
def texClass : List Nat → TexClass
  | [83, b, c] =>
    if (b = 76 ∧ c = 50) ∨ b = 85 ∨ (b = 71 ∧ c = 32) ∨ (b = 77 ∧ c = 32) ∨ (b = 70 ∧ c = 32) then .sLight
    else .sOther
  | [85, _, _] => .u
  | [76, _, _] => .l
  | [84, b, c] =>
    if b = 32 ∧ c = 32 then .tPure
    else if b = 85 ∨ b = 117 then
      (if c = 50 ∨ c = 51 then .tu23 else if c = 52 then .tu4 else .tOther)
    else .tOther
  | [32, 84, 32] => .tPure
  | [32, 32, 84] => .tPure
  | [72, _, _] => .h
  | _ => .other

/-- first character of the texture is `S` (init.go:103, on the top horizon) -/
def isSand : List Nat → Bool
  | 83 :: _ => true
  | _ => false

/-- column group of the density class (input.go:1232-1244); none for classes outside 1-5 -/
def ldColumn (ld : Nat) : Option Nat :=
  if ld = 1 ∨ ld = 2 then some 0 else if ld = 3 then some 1 else if ld = 4 ∨ ld = 5 then some 2 else none

/-- groundwater part of the field-capacity correction KRR (percent by volume) -/
def krrGw (cl : TexClass) (grw : α) : α :=
  match cl with
  | .sLight | .sOther =>
    if grw < 9.0 then 2.0
    else if ¬ (grw < 20.0) ∧ grw < 30.0 then -1.0
    else if ¬ (grw < 30.0) then -2.0
    else 0.0
  | .u => if grw < 8.0 then 1.0 else if 35.0 < grw then -1.0 else 0.0
  | .l | .tPure | .tu23 | .tu4 | .tOther => if grw < 8.0 then 1.0 else 0.0
  | .h | .other => 0.0

/-- organic-matter part of KRR -/
def krrCorg (cl : TexClass) (c : α) : α :=
  match cl with
  | .sLight => if 4.6 < c then 10.0 else if 2.3 < c then 7.5 else if 1.16 < c then 3.5 else 0.0
  | .sOther => if 4.6 < c then 11.5 else if 2.3 < c then 8.0 else if 1.16 < c then 3.5
               else if 0.58 < c then 1.5 else 0.0
  | .u => if 5.2 < c then 12.0 else if 4.6 < c then 7.0 else if 3.5 < c then 5.0 else if 2.3 < c then 1.0 else 0.0
  | .l => if 4.6 < c then 7.0 else if 3.5 < c then 4.0 else if 2.3 < c then 1.0 else 0.0
  | .tu23 => if 4.6 < c then 4.0 else if 3.5 < c then 2.0 else 0.0
  | .tu4 => if 4.6 < c then 7.0 else if 3.5 < c then 4.0 else if 2.3 < c then 1.0 else 0.0
  | .tPure | .tOther | .h | .other => 0.0

/-- organic-matter correction of the pore volume KRG (only for S*) -/
def krgCorg (cl : TexClass) (c : α) : α :=
  match cl with
  | .sLight => if 4.6 < c then 10.0 else if 2.3 < c then 6.5 else if 1.16 < c then 2.5 else 0.0
  | .sOther => if 4.6 < c then 14.0 else if 2.3 < c then 10.0 else if 1.16 < c then 4.5
               else if 0.58 < c then 1.5 else 0.0
  | _ => 0.0

/-- AD (input.go:1254-1444), returned by `Hydro` -/
def adOf (cl : TexClass) : α :=
  match cl with
  | .sLight | .sOther => 0.004
  | .u => 0.002
  | .l => 0.005
  | .tPure | .tu23 | .tu4 | .tOther => 0.001
  | .h => 0.001
  | .other => 0.002

/-- what one call of `Hydro` leaves for a horizon -/
structure Cell (α : Type) where
  fk : α       -- local.FK   uncorrected field capacity (fraction)
  lim : α      -- g.LIM      wilting point
  prges : α    -- g.PRGES    pore volume incl. KRG
  feldw : α    -- g.FELDW    corrected field capacity
  normfk : α   -- g.NORMFK

/-- `KRR = KRR + …` (input.go:1273 …): the groundwater term first, then the organic-matter term -/
def krr (cl : TexClass) (c grw : α) : α := krrGw cl grw + krrCorg cl c

/-- `Hydro` for a table row `vals` (see `Generated.hyparRows`), the texture class, the density class,
C_org and the groundwater level. -/
def hydroRow (cl : TexClass) (vals : List Nat) (ld : Nat) (c grw : α) : Cell α :=
  match ldColumn ld with
  | none => { fk := 0.0, lim := 0.0, prges := 0.0 + krgCorg cl c / 100.0, feldw := 0.0 + krr cl c grw / 100.0, normfk := 0.0 }
  | some col =>
    let fk : α := Conv.ofNat (vals.getD col 0) / 100.0
    let lim : α := fk - Conv.ofNat (vals.getD (3 + col) 0) / 100.0
    let ps : α := Conv.ofNat (vals.getD (6 + col) 0) / 100.0
    { fk := fk, lim := lim, prges := ps + krgCorg cl c / 100.0, feldw := fk + krr cl c grw / 100.0, normfk := fk }

/-- first row of the regenerated table with that texture name -/
def lookupRow (codes : List Nat) : List (List Nat × List Nat) → Option (List Nat)
  | [] => none
  | (n, v) :: rest => if n = codes then some v else lookupRow codes rest

/-- `Hydro` by texture name -/
def hydro (codes : List Nat) (ld : Nat) (c grw : α) : Cell α :=
  hydroRow (texClass codes) ((lookupRow codes Generated.hyparRows).getD []) ld c grw

/-- WRED as `Hydro` sets it for horizon 1 (input.go:1247-1251): from the uncorrected table values of
the horizon, in percent, with the stone factor of the horizon -/
def hydroWRed (codes : List Nat) (cell : Cell α) (stein : α) : α :=
  calcWRed (isSand codes) (cell.lim * 100.0 * (1.0 - stein)) (cell.fk * 100.0 * (1.0 - stein))

/-! ### per-layer assignment (input.go:193-275) -/

/-- the four parameters of one 10 cm layer -/
structure Layer (α : Type) where
  w : α        -- field capacity W
  wmin : α     -- wilting point WMIN
  porges : α   -- pore volume PORGES
  wnor : α     -- uncorrected field capacity WNOR

/-- one horizon of the soil file -/
structure Horizon (α : Type) where
  codes : List Nat    -- texture
  ld : Nat
  lower : Nat         -- UKT: lower boundary in dm
  corg : α
  stein : α           -- stone fraction (file value / 100)
  fka : α             -- explicit field capacity, percent (0 = not given)
  wp : α
  gpv : α
  sand : α
  silt : α
  clay : α

/-- explicit route (input.go:207-215) -/
def explicitLayer (fka wp gpv : α) : Layer α :=
  { w := fka / 100.0, wmin := wp / 100.0, porges := gpv / 100.0, wnor := fka / 100.0 }

/-- table route (input.go:223-230 and run.go:402-405) -/
def tableLayer (cell : Cell α) (stein : α) : Layer α :=
  { w := cell.feldw * (1.0 - stein), wmin := cell.lim * (1.0 - stein),
    porges := cell.prges * (1.0 - stein), wnor := cell.normfk * (1.0 - stein) }

/-- pedotransfer route (input.go:249-265): pore volume still from the soil file -/
def ptfLayer (k : Nat) (h : Horizon α) : Layer α :=
  let r := ptf k h.corg h.clay h.silt h.sand
  { w := r.1, wmin := r.2, porges := h.gpv / 100.0, wnor := r.1 }

/-- the layer parameters of a horizon at input time and the CAPPAR flag it sets -/
def horizonLayer (k : Nat) (h : Horizon α) (grw : α) : Layer α × Nat :=
  if k = 0 then
    if 0.0 < h.fka then (explicitLayer h.fka h.wp h.gpv, 1)
    else (tableLayer (hydro h.codes h.ld h.corg grw) h.stein, 0)
  else (ptfLayer k h, 1)

/-- `for LT := UKT[L-1]+1; LT <= UKT[L]` : the horizon's layer repeated over its 10 cm layers -/
def expand (f : Horizon α → Layer α) : Nat → List (Horizon α) → List (Layer α)
  | _, [] => []
  | prev, h :: hs => List.replicate (h.lower - prev) (f h) ++ expand f h.lower hs

/-- CAPPAR after the loop: the flag of the last horizon that has at least one layer -/
def capparOf (k : Nat) (grw : α) : Nat → Nat → List (Horizon α) → Nat
  | acc, _, [] => acc
  | acc, prev, h :: hs =>
    capparOf k grw (if prev < h.lower then (horizonLayer k h grw).2 else acc) h.lower hs

/-- WRED after `Input`: `Hydro` sets it for horizon 1 from the table; the explicit route overwrites
it with the percent values of the soil file (input.go:217), the pedotransfer routes with the percent
values of their result (input.go:268-269).  Both overwrites happen inside the layer loop, i.e. only if
horizon 1 has a layer. -/
def wredInput (k : Nat) (h : Horizon α) (grw : α) : α :=
  let tab := hydroWRed h.codes (hydro h.codes h.ld h.corg grw) h.stein
  if h.lower = 0 then tab
  else if k = 0 then (if 0.0 < h.fka then calcWRed (isSand h.codes) h.wp h.fka else tab)
  else
    let l := ptfLayer k h
    calcWRed (isSand h.codes) (l.wmin * 100.0) (l.w * 100.0)

/-! ### saturated zone -/

/-- `W[l-1] = PORGES[l-1]` for the 1-based layers `l ≥ from` -/
def saturateFrom (frm : Nat) : Nat → List (Layer α) → List (Layer α)
  | _, [] => []
  | l, x :: xs => (if frm ≤ l then { x with w := x.porges } else x) :: saturateFrom frm (l + 1) xs

/-- input.go:286-292: `if GW < N { for l := round(max(GW,1)) … N { W = PORGES } }` -/
def satInput (gw : α) (n : Nat) (ls : List (Layer α)) : List (Layer α) :=
  if gw < Conv.ofNat n then
    saturateFrom (Conv.roundNat (if gw < 1.0 then 1.0 else gw)) 1 ls
  else ls

/-- init.go:90-98 for the layers `l, l+1, …`: the layer `first = int(GRW+1)` is mixed with the
fraction `fr = mod(GRW+1, 1)`, the layers below it get the pore volume -/
def setFcFrom (first : Nat) (fr : α) : Nat → List (Layer α) → List (Layer α)
  | _, [] => []
  | l, x :: xs =>
    (if l = first then { x with w := (1.0 - fr) * x.porges + x.w * fr }
     else if first < l then { x with w := x.porges } else x) :: setFcFrom first fr (l + 1) xs

/-- `setFieldCapacityWithGW` (GRW ≥ 0): `int(GRW+1)` and `math.Mod(GRW+1, 1)` -/
def setFieldCapacityWithGW (grw : α) (ls : List (Layer α)) : List (Layer α) :=
  let first := Conv.truncNat (grw + 1.0)
  setFcFrom first ((grw + 1.0) - Conv.ofNat first) 1 ls

/-! ### state, input, groundwater change -/

structure St (α : Type) where
  cur : List (Layer α)     -- W, WMIN, PORGES, WNOR
  bak : List (Layer α)     -- W_Backup …
  wred : α
  cappar : Nat

/-- `for i < N { X[i] = X_Backup[i] }` (run.go:411-416) -/
def restoreN : Nat → List (Layer α) → List (Layer α) → List (Layer α)
  | n + 1, _ :: cs, b :: bs => b :: restoreN n cs bs
  | _, cur, _ => cur

/-- the state after `Input` (input.go:193-292); `grw` is the level `Hydro` sees, `gw` the level of
the saturated-zone rule -/
def inputState (k : Nat) (hs : List (Horizon α)) (gw grw : α) (n : Nat) : St α :=
  let ls := expand (fun h => (horizonLayer k h grw).1) 0 hs
  { cur := satInput gw n ls, bak := ls,
    wred := match hs with | [] => 0.0 | h :: _ => wredInput k h grw,
    cappar := capparOf k grw 0 0 hs }

/-- `Init` (init.go:22) -/
def initState (s : St α) (grw : α) : St α := { s with cur := setFieldCapacityWithGW grw s.cur }

/-- run.go:390-420, taken when the level changed: rebuild from the table (all horizons, whatever
their route at input time) or restore the backups and recompute WRED from the restored top layer
(in percent, run.go:417-418); then the saturated zone for the new level. -/
def gwStep (k : Nat) (hs : List (Horizon α)) (n : Nat) (s : St α) (grw : α) : St α :=
  if k = 0 ∧ s.cappar = 0 then
    let ls := expand (fun h => tableLayer (hydro h.codes h.ld h.corg grw) h.stein) 0 hs
    { s with cur := setFieldCapacityWithGW grw ls,
             wred := match hs with | [] => s.wred | h :: _ => hydroWRed h.codes (hydro h.codes h.ld h.corg grw) h.stein }
  else
    let ls := restoreN n s.cur s.bak
    { s with cur := setFieldCapacityWithGW grw ls,
             wred := match ls with
                     | [] => s.wred
                     | l0 :: _ => calcWRed (match hs with | [] => false | h :: _ => isSand h.codes) (l0.wmin * 100.0) (l0.w * 100.0) }

/-- the parameters the day loop works with on a day: never changed so far → `Input` (where GRW = GW
in all three groundwater modes, input.go:71-72, 86, 155-156) then `Init` at the initial level;
otherwise the groundwater step at today's level (from whatever state). -/
def dayState (k : Nat) (hs : List (Horizon α)) (n : Nat) (gw grwInit : α) (changed : Bool) (grw : α) : St α :=
  let s0 := initState (inputState k hs gw gw n) grwInit
  if changed then gwStep k hs n s0 grw else s0

end
end Hermes.SoilParams
