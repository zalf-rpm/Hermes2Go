/-
Model of the parts of a crop day of `PhytoOut` (hermes/crop.go) that HermesModel/Crop.lean takes as inputs:

* `radia` (crop.go:770-982): light interception, photosynthesis and maintenance respiration after
  Penning de Vries — DLE, GPHOT, MAINT, the maintenance shares MANT, PARi and the sunshine clamp.  Every
  transcendental value (`pow`, `exp`, `log`, `sin`, `cos`) is an input (`RadiaT`), computed on the Go side;
  the arguments of the `log`/`exp` calls that depend on computed values are exposed (`argX`, `argY`, `argC`,
  `argO`) so that the Go side can evaluate the functions at exactly the model's arguments.
* the N-content functions GEHMIN / GEHMAX (crop.go:317-419), nine variants, `exp`/`pow` values as inputs.
* the assimilate bookkeeping (crop.go:212-227, 451-505): GTW = GPHOT + ASPOO, GPPdaily, GPPsum, RespDay,
  dead organ mass WDORG, composed with `Crop.organs` (`growDay`).
* root length density, daily N demand DTGESN with its caps, potential uptake by mass flow (MASS) and
  diffusion (DIFF) and the distribution of the uptake over the rooted layers producing PE[i], SUMPE and
  the N fixation NFIX (crop.go:542-546, 557-562, 608-743), composed with the N-concentration update of
  `Crop` (744-766) (`uptakeDay`).

Not modelled: the regrowth of permanent crops (522-541), the fertiliser-demand prognosis
`SimulateFertilizationAfterPrognose` (crop.go:704, only active for zeit > PROGNOS), the dead-root N
(WUMM) credited to the organic pools (563-568, 658-661).  Polymorphic in the arithmetic (see Num.lean).
-/
import HermesModel.Num
import HermesModel.Crop
namespace Hermes.CropDay
open Hermes.Crop

section
variable {α : Type} [Add α] [Sub α] [Mul α] [Div α] [Neg α] [LT α] [DecidableLT α] [LE α] [DecidableLE α]
  [OfNat α 0] [OfNat α 1] [OfScientific α] [Conv α]

/-- Go `x == 0` (no NaN) with the order only -/
def isZero (x : α) : Bool := !(decide (x < 0)) && !(decide (0 < x))
/-- Go `x == 1` (no NaN) -/
def isOne (x : α) : Bool := !(decide (x < 1)) && !(decide (1 < x))

/-- `math.Pi` -/
def pi : α := 3.141592653589793

/-! ### radia (crop.go:770-982) -/

/-- the transcendental values `radia` uses, in the order of the code -/
structure RadiaT (α : Type) where
  pow2co : α   -- math.Pow(2, (TEMP-10)/10)                                  crop.go:791
  ktvmax : α   -- math.Exp(68800·((TEMP+273)-298)/(298·(TEMP+273)·8.314))    792
  ktkc : α     -- the same with 65800                                       793
  ktko : α     -- the same with 1400                                        794
  t2 : α       -- math.Pow(TEMP, 2)                                          801, 802
  t3 : α       -- math.Pow(TEMP, 3)
  cosSC : α    -- math.Cos(2·π·TAG/365)                                      837
  sslae : α    -- math.Sin((90+DEC-LAT)·π/180)                               875
  logX : α     -- math.Log(argX)                                             876
  logY : α     -- math.Log(argY)                                             878
  e8 : α       -- math.Exp(-.8·LAI)                                          881, 898
  eC : α       -- math.Exp(argC) = exp(-MAPHC/MIPHC)                         894
  eO : α       -- math.Exp(argO) = exp(-MAPHO/MIPHO)                         910
  teff : α     -- math.Pow(2, .1·TEMP - 2.5)                                 959

structure RadiaIn (α : Type) where
  dl : α        -- astronomical day length, effective and photoperiodic day length, RDN, DRC of CalculateDayLenght
  dle : α
  dlp : α
  rdn : α
  drc : α
  co2meth : Nat
  temptyp : Nat   -- 1 = C3
  co2konz : α
  temp : α
  mintmp : α
  maxamax : α
  rad : α
  sund : α
  lai : α
  lured : α
  trrel : α
  dryswell : α    -- DRYSWELL[INTWICK]
  vswellOne : Bool  -- crop ∈ {SM, K, WR, SG, WW, WG}
  dt : α
  radsum : α
  parsum : α
  pariOld : α
  worg : List α
  mairt : List α
  mantOld : List α

/-- crop.go:816-829: temperature response of AMAX, C3 crops -/
def amaxC3 (mx t mintmp : α) : α :=
  if t < mintmp then 0
  else if t < 10.0 then mx * t / 10.0 * 0.4
  else if t < 15.0 then mx * (0.4 + (t - 10.0) / 5.0 * 0.5)
  else if t < 25.0 then mx * (0.9 + (t - 15.0) / 10.0 * 0.1)
  else if t < 35.0 then mx * (1 - (t - 25.0) / 10.0)
  else 0

/-- crop.go:850-868: temperature response of AMAX, C4 crops -/
def amaxC4 (mx t mintmp : α) : α :=
  if t < mintmp then 0
  else if t < 9.0 then mx * t / 10.0 * 0.0555
  else if t < 16.0 then mx * (0.05 + (t - 9.0) / 7.0 * 0.75)
  else if t < 18.0 then mx * (0.8 + (t - 16.0) * 0.07)
  else if t < 20.0 then mx * (0.94 + (t - 18.0) * 0.03)
  else if 20.0 ≤ t ∧ t ≤ 30.0 then mx
  else if t < 36.0 then mx * (1 - (t - 30.0) * 0.0083)
  else if t < 42.0 then mx * (1 - (t - 36.0) * 0.0065)
  else 0

/-- crop.go:793-811 (CO2METH 3, Long 1991 / Mitchell 1995): (cocomp, amax) -/
def amaxLong (i : RadiaIn α) (t : RadiaT α) : α × α :=
  let fakamax := i.maxamax / 34.695
  let vcmax := 98.0 * fakamax * t.ktvmax
  let mkc := 460.0 * t.ktkc
  let mko := 210.0 * t.ktko
  let oi := 210.0 + (0.047 - 0.0013087 * i.temp + 0.000025603 * t.t2 - 0.00000021441 * t.t3) / 0.026934
  let ci := i.co2konz * 0.7 * (1.674 - 0.061294 * i.temp + 0.0011688 * t.t2 - 0.0000088741 * t.t3) / 0.73547
  let cocomp := 0.5 * 0.21 * vcmax * oi / (vcmax * mko)
  let a := (ci - cocomp) * vcmax / (ci + mkc * (1 + oi / mko)) * 1.656
  (cocomp, if i.temp < i.mintmp then 0 else a)

/-- crop.go:790-811: CO2 compensation point -/
def cocompOf (i : RadiaIn α) (t : RadiaT α) : α :=
  if i.co2meth = 1 then 17.5 * t.pow2co else if i.co2meth = 3 then (amaxLong i t).1 else 0

/-- crop.go:785-814: light use efficiency EFF -/
def effOf (i : RadiaIn α) (t : RadiaT α) : α :=
  if i.co2meth = 1 then (i.co2konz - cocompOf i t) / (i.co2konz + 2.0 * cocompOf i t) * 0.5 else 0.5

/-- crop.go:834-846 (CO2METH 2): CO2 factor of AMAX -/
def kco2 (i : RadiaIn α) (t : RadiaT α) : α :=
  let kc : α × α :=
    if 0 < i.rad then (220.0 + 0.158 * i.rad * 20.0, 80.0 - 0.0036 * i.rad * 20.0)
    else
      let sc := 1367.0 * (1 + 0.033 * t.cosSC)
      let ext := sc * i.rdn / 10000.0
      let glob := ext * (0.19 + 0.55 * i.sund / i.dl)
      (220.0 + 0.158 * glob, 80.0 - 0.0036 * glob)
  ((i.co2konz - kc.2) / (kc.1 + i.co2konz - kc.2)) / ((350.0 - kc.2) / (kc.1 + 350.0 - kc.2))

/-- crop.go:815-869: AMAX before the floor -/
def amaxRaw (i : RadiaIn α) (t : RadiaT α) : α :=
  if i.temptyp = 1 then
    let a0 := if i.co2meth = 3 then (amaxLong i t).2 else amaxC3 i.maxamax i.temp i.mintmp
    if i.co2meth = 1 then a0 * (i.co2konz - cocompOf i t) / (350.0 - cocompOf i t)
    else if i.co2meth = 2 then a0 * kco2 i t
    else a0
  else amaxC4 i.maxamax i.temp i.mintmp

/-- crop.go:870-872: AMAX has the floor 0.1 -/
def amaxOf (i : RadiaIn α) (t : RadiaT α) : α :=
  let a := amaxRaw i t
  if a < 0.1 then 0.1 else a

/-- crop.go:873-875: DLE = 0.1 when it is 0 on a day with DL > 0 -/
def dleOf (i : RadiaIn α) : α := if isZero i.dle ∧ 0 < i.dl then 0.1 else i.dle

/-- crop.go:876-877: EFFE = (1 − REFLC)·EFF -/
def effe (i : RadiaIn α) (t : RadiaT α) : α := (1 - 0.08) * effOf i t

/-- arguments of the two `math.Log` calls (crop.go:879, 881) -/
def argX (i : RadiaIn α) (t : RadiaT α) : α :=
  1 + 0.45 * i.drc / (dleOf i * 3600.0) * effe i t / (t.sslae * amaxOf i t)
def argY (i : RadiaIn α) (t : RadiaT α) : α :=
  1 + 0.55 * i.drc / (dleOf i * 3600.0) * effe i t / ((5.0 - t.sslae) * amaxOf i t)

/-- crop.go:880-883: PHCH (clear sky, closed canopy) -/
def phch (i : RadiaIn α) (t : RadiaT α) : α :=
  let p1 := t.sslae * amaxOf i t * dleOf i * t.logX / (1 + t.logX)
  let p2 := (5.0 - t.sslae) * amaxOf i t * dleOf i * t.logY / (1 + t.logY)
  0.95 * (p1 + p2) + 20.5

def phc3 (i : RadiaIn α) (t : RadiaT α) : α := phch i t * (1 - t.e8)
def phc4 (i : RadiaIn α) (t : RadiaT α) : α := i.dl * i.lai * amaxOf i t

/-- crop.go:886-893, 902-909: (min, max) of two numbers, `a < b` deciding -/
def minMax (a b : α) : α × α := if a < b then (a, b) else (b, a)
/-- crop.go:894-896, 910-912 -/
def miFix (m : α) : α := if isZero m then 0.000001 else m

/-- `-MA/MI` -/
def negDiv (ma mi : α) : α := -ma / mi

/-- argument of `math.Exp` in PHCL (crop.go:897) -/
def argC (i : RadiaIn α) (t : RadiaT α) : α :=
  negDiv (minMax (phc3 i t) (phc4 i t)).2 (miFix (minMax (phc3 i t) (phc4 i t)).1)
def phcl (i : RadiaIn α) (t : RadiaT α) : α :=
  miFix (minMax (phc3 i t) (phc4 i t)).1 * (1 - t.eC)

/-- crop.go:898-900 (overcast sky) -/
def zOf (i : RadiaIn α) (t : RadiaT α) : α :=
  0.2 * i.drc / (dleOf i * 3600.0) * effe i t / (5.0 * amaxOf i t)
def phoh (i : RadiaIn α) (t : RadiaT α) : α :=
  0.9935 * (5.0 * amaxOf i t * dleOf i * zOf i t / (1 + zOf i t)) + 1.1
def pho3 (i : RadiaIn α) (t : RadiaT α) : α := phoh i t * (1 - t.e8)
/-- argument of `math.Exp` in PHOL (crop.go:913) -/
def argO (i : RadiaIn α) (t : RadiaT α) : α :=
  negDiv (minMax (pho3 i t) (phc4 i t)).2 (miFix (minMax (pho3 i t) (phc4 i t)).1)
def phol (i : RadiaIn α) (t : RadiaT α) : α :=
  miFix (minMax (pho3 i t) (phc4 i t)).1 * (1 - t.eO)

/-- crop.go:914-921 -/
def dgac (i : RadiaIn α) (t : RadiaT α) : α := if i.lai - 5.0 < 0 then phcl i t else phch i t
def dgao (i : RadiaIn α) (t : RadiaT α) : α := if i.lai - 5.0 < 0 then phol i t else phoh i t

/-- crop.go:925-927: sunshine hours are cut at DLE -/
def sundClamp (i : RadiaIn α) : α := if dleOf i < i.sund then dleOf i else i.sund

/-- crop.go:932-938: overcast fraction, clamped to [0,1] -/
def fov (i : RadiaIn α) : α := clamp01 ((i.drc - 1000000.0 * i.rad * 1) / (0.8 * i.drc))

/-- crop.go:922-940: daily gross assimilation DTGA (kg CO2/ha/d) -/
def dtga (i : RadiaIn α) (t : RadiaT α) : α :=
  if isZero i.rad then
    let s := sundClamp i
    s / dleOf i * dgac i t + (1 - s / dleOf i) * dgao i t
  else
    fov i * dgao i t + (1 - fov i) * dgac i t

/-- crop.go:947-956 -/
def vswell (i : RadiaIn α) : α :=
  if isOne i.lured then i.dryswell else if i.vswellOne then 1 else 0.8

/-- crop.go:946-959: GPHOT before the maintenance test -/
def gphot0 (i : RadiaIn α) (t : RadiaT α) : α :=
  let g := dtga i t * 30.0 / 44.0
  if i.trrel < vswell i then g * i.trrel else g

/-- crop.go:963-968 -/
def mainorg (i : RadiaIn α) : List α := List.zipWith (· * ·) i.worg i.mairt
def maints (i : RadiaIn α) : α := sumFrom 0 (mainorg i)
/-- crop.go:969-971 -/
def mant (i : RadiaIn α) : List α := (mainorg i).map (· / maints i)

/-- crop.go:973-977 -/
def maint0 (i : RadiaIn α) (t : RadiaT α) : α :=
  if gphot0 i t < maints i * t.teff then gphot0 i t else maints i * t.teff

structure RadiaOut (α : Type) where
  dle : α
  dlp : α
  gphot : α
  maint : α
  mant : List α
  pari : α
  parsum : α
  radsum : α
  sund : α

/-- `radia` (crop.go:770-982). On a day without daylight (DL ≤ 0) nothing is changed and GPHOT = MAINT = 0. -/
def radia (i : RadiaIn α) (t : RadiaT α) : RadiaOut α :=
  if i.dl ≤ 0 then
    { dle := i.dle, dlp := i.dlp, gphot := 0, maint := 0, mant := i.mantOld, pari := i.pariOld, parsum := i.parsum,
      radsum := i.radsum, sund := i.sund }
  else
    let m := maint0 i t
    let pari := dtga i t / amaxOf i t * effe i t
    { dle := dleOf i, dlp := i.dlp, gphot := if i.temp < i.mintmp then m else gphot0 i t, maint := m, mant := mant i,
      pari := pari, parsum := i.parsum + pari,
      radsum := if isZero i.rad then i.radsum else i.radsum + i.rad * i.dt * 1,
      sund := if isZero i.rad then sundClamp i else i.sund }

/-! ### N-content functions (crop.go:317-419) -/

structure NfnIn (α : Type) where
  ngefkt : Nat
  wrsg : Bool      -- crop ∈ {WR, SG}
  phyllo : α
  obmas : α
  worg3 : α        -- WORG[3]
  org : α          -- WORG[SubOrgan-1] or 0
  rga : α
  tendsum : α
  gehminOld : α
  gehmaxOld : α
  tmin : α         -- the value of exp / pow in the GEHMIN formula of the branch taken
  tmax : α         -- the same for GEHMAX

/-- (GEHMIN, GEHMAX) -/
def nfn (i : NfnIn α) : α × α :=
  if i.ngefkt = 1 then
    if i.phyllo < 200.0 then (0.0415, 0.06)
    else if i.wrsg then (5.1 * i.tmin / 100.0, 8.0 * i.tmax / 100.0)
    else (5.5 * i.tmin / 100.0, 8.1 * i.tmax / 100.0)
  else if i.ngefkt = 2 then
    (if i.phyllo < 263.0 then 0.035 else 0.035 - 0.024645 * ((1 - i.tmin) * (1 - i.tmin)),
     if i.phyllo < 142.0 then 0.049 else 0.049 - 0.037883841 * ((1 - i.tmax) * (1 - i.tmax)))
  else if i.ngefkt = 3 then
    if i.obmas < 1000.0 then (0.045, 0.06) else (0.045 * i.tmin, 0.06 * i.tmax)
  else if i.ngefkt = 4 then
    if i.obmas + i.worg3 < 1000.0 then (0.045, 0.06) else (0.0135 + 0.0403 * i.tmin, 0.0285 + 0.0403 * i.tmax)
  else if i.ngefkt = 5 then
    if i.obmas + i.org < 1100.0 then (i.rga, 0.06) else (i.rga * i.tmin, 0.06 * i.tmax)
  else if i.ngefkt = 6 then
    if i.phyllo < 400.0 then (0.0415, 0.06) else (5.5 * i.tmin / 100.0, 8.1 * i.tmax / 100.0)
  else if i.ngefkt = 7 then
    if i.obmas < 1000.0 then (0.0448, 0.0615) else (0.0448 * i.tmin, 0.0615 * i.tmax)
  else if i.ngefkt = 8 then
    if i.phyllo < 200.0 * i.tendsum / 1260.0 then (0.0415, 0.06)
    else if i.wrsg then (5.1 * i.tmin / 100.0, 8.0 * i.tmax / 100.0)
    else (5.5 * i.tmin / 100.0, 8.1 * i.tmax / 100.0)
  else if i.ngefkt = 9 then
    if i.obmas + i.worg3 < 1000.0 then (0.045, 0.06) else (0.0135 + 0.0403 * i.tmin, 0.0285 + 0.0403 * i.tmax)
  else (i.gehminOld, i.gehmaxOld)

/-! ### assimilate bookkeeping of the day (crop.go:212-227, 451-505) -/

/-- crop.go:461: respiration of one organ (growth 30 % + maintenance), in kg C/ha -/
def respOrgan (e : OrganEnv α) (p : OrganPar α) : α :=
  (e.gtw * 0.3 * (p.proPrev + (p.proCur - p.proPrev) * e.sumI / e.tsumI) * e.reduk - (e.maint * p.mant * 0.3) + e.maint * p.mant)
    * 12.0 / 30.0 / 10.0 * e.dt

/-- crop.go:499-502: dead mass of an organ; kept below the living mass -/
def wdorgUpd (dt w wd d : α) : α :=
  let x := wd + d * dt
  if w - x ≤ 0 then w - 0.001 else x

def wdorgList (dt : α) : List α → List α → List α → List α
  | w :: ws, wd :: wds, d :: ds => wdorgUpd dt w wd d :: wdorgList dt ws wds ds
  | _, _, _ => []

/-- the shares MANT of `radia` go into the organ parameters -/
def withMant : List (OrganPar α × α × α) → List α → List (OrganPar α × α × α)
  | (p, w, d) :: rest, m :: ms => ({ p with mant := m }, w, d) :: withMant rest ms
  | rest, [] => rest
  | [], _ => []

structure GrowOut (α : Type) where
  rad : RadiaOut α
  org : OrgOut α
  gtw : α
  gppdaily : α
  gppsum : α
  respday : α
  wdorg : List α

/-- One day of growth of an emerged crop (crop.go:206-227, 451-517): LAI floor, `radia`, GTW = GPHOT + ASPOO,
GPP bookkeeping, the organ loop of `Crop.organs` with MAINT and MANT of `radia`, RespDay, WDORG.
`ri.lai` is the LAI before the call (the floor is applied here); `e.gtw`, `e.maint` and the `mant` fields of
`orgs` are ignored (they are produced here). -/
def growDay (ri : RadiaIn α) (rt : RadiaT α) (e : OrganEnv α) (aspoo gppsum gehalt laimax0 pesum0 : α) (above : List Nat)
    (orgs : List (OrganPar α × α × α)) (wdorg : List α) : GrowOut α :=
  let r := radia { ri with lai := laiFloor ri.lai } rt
  let gtw := r.gphot + aspoo
  let e1 : OrganEnv α := { e with gtw := gtw, maint := r.maint }
  let orgs1 := withMant orgs r.mant
  let o := organs e1 gehalt ri.lai laimax0 pesum0 above orgs1
  let gpp := r.gphot * 12.0 / 30.0 / 10.0
  { rad := r, org := o, gtw := gtw, gppdaily := gpp, gppsum := gppsum + gpp,
    respday := sumFrom 0 (orgs1.map (fun x => respOrgan e1 x.1)),
    wdorg := wdorgList e.dt o.worg wdorg o.dgorg }

/-! ### root length density (crop.go:608-657) -/

/-- crop.go:611-620: root radius of layer `i` (1-based); the constant of the fallback is folded by the Go
compiler: (.020 − 19·.001)/2 = 0.0005 -/
def wradOf (beet : Bool) (i : Nat) : α :=
  if beet then 0.01
  else
    let r : α := 0.020 - Conv.ofNat i * 0.001
    if r ≤ 0 then 0.0005 else r

/-- crop.go:633: root fresh mass down to the lower boundary of a layer, `eq` = exp(−Qrez·depth) -/
def rfw (wumas eq : α) : α := wumas * (1 - eq) / 100000.0 * 100.0 / 7.0

/-- crop.go:629-651: (WUDICH, WUANT) of the rooted layers; `eqs` = (exp(−Qrez·Tiefe), exp(−Qrez·(Tiefe−DZ))) per layer -/
def rootLayers (beet : Bool) (wumas dz : α) : Nat → α → List (α × α) → List (α × α)
  | _, _, [] => []
  | i, prev, (e, em) :: rest =>
    let f := rfw wumas e
    let w : α := wradOf beet i
    let den := if 1 < i then fabs (f - prev) / (w * w * pi) / dz else fabs f / (w * w * pi) / dz
    let ant := if 1 < i then (1 - e) - (1 - em) else 1 - e
    (den, ant) :: rootLayers beet wumas dz (i + 1) f rest

/-- crop.go:653-657: total root length -/
def wulaenOf (dz : α) (wudich : List α) : α := sumFrom 0 (wudich.map (· * dz))

/-! ### N demand (crop.go:542-546, 557-562, 662-687) -/

/-- crop.go:663-681: maximum uptake rate per cm root; classes: 0 = ORH, WRA, SE, LET, WCA, ONI, CEL, GAR, CAR, PMK;
1 = SM; 2 = ZR; 3 = all others -/
def maxup (cls : Nat) (phyllo tendsum : α) : α :=
  if cls = 0 then 0.09145 - 0.015725 * (phyllo / 1300.0)
  else if cls = 1 then 0.074 - 0.01 * (phyllo / tendsum)
  else if cls = 2 then 0.05645 - 0.01 * (phyllo / tendsum)
  else 0.03145 - 0.015725 * (phyllo / 1300.0)

/-- crop.go:542-546: difference to the maximum N content (0 while the crop has not emerged) -/
def demandRaw (beet active : Bool) (gehmax obmas wumas worg3 wgmax pesum dt : α) : α :=
  if active then
    if beet then (gehmax * obmas + (wumas + worg3) * wgmax - pesum) * dt
    else (gehmax * obmas + wumas * wgmax - pesum) * dt
  else 0

/-- crop.go:557-562: at most 6 kg N/ha/d, not negative -/
def demandClamp (dt d : α) : α :=
  let d1 := if 6.0 * dt < d then 6.0 * dt else d
  if d1 < 0 then 0 else d1

/-- crop.go:683-687: cap by root length × maximum uptake rate (not for legumes) -/
def demandCap (legum : Bool) (wulaen mx dt d : α) : α :=
  if wulaen * mx * dt < d ∧ legum = false then wulaen * mx * dt else d

/-! ### potential uptake and its distribution (crop.go:688-743) -/

/-- a rooted layer -/
structure ULayer (α : Type) where
  c1 : α       -- mineral N (kg N/ha)
  tp : α       -- water uptake (cm/d)
  wg : α       -- water content
  ad : α       -- diffusion factor of the texture
  wrad : α     -- root radius
  wudich : α   -- root length density
  ewg : α      -- math.Exp(WG·10)
  sq : α       -- math.Sqrt(π·WUDICH)

/-- crop.go:693: N arriving with the transpiration stream -/
def massOf (dt dz : α) (l : ULayer α) : α := l.tp * (l.c1 / (l.wg * dz)) * dt
/-- crop.go:695 -/
def dCoef (l : ULayer α) : α := 2.14 * (l.ad * l.ewg) / l.wg
/-- crop.go:696: N arriving by diffusion before the floor; negative when the concentration of the soil solution is
below 0.000014 -/
def diffRaw (dt : α) (l : ULayer α) : α :=
  (dCoef l * l.wg * 2.0 * pi * l.wrad * (l.c1 / 1000.0 / l.wg - 0.000014) * l.sq) * l.wudich * 1000.0 * dt

/-- crop.go:696-699: DIFF has the floor 0 (a layer without mineral N does not lower the diffusion supply SUMDIFF of
the others — the repair of the C09 finding `sum-exceeds-demand:negative-diffusion-term`) -/
def diffOf (dt : α) (l : ULayer α) : α :=
  let d := diffRaw dt l
  if d < 0 then 0 else d

/-- crop.go:690-702: (C1, MASS, DIFF) per rooted layer; computed for the first ten layers only, 0 below
(the arrays are zero-initialised at every call). `idx` is the 0-based index of the head. -/
def massDiff (dt dz : α) : Nat → List (ULayer α) → List (α × α × α)
  | _, [] => []
  | idx, l :: ls =>
    (if idx + 1 < 11 then (l.c1, massOf dt dz l, diffOf dt l) else (l.c1, 0, 0)) :: massDiff dt dz (idx + 1) ls

/-- TRNSUM, SUMDIFF: the code accumulates the first ten layers; the entries below are 0 (x + 0 = x) -/
def trnsumOf (md : List (α × α × α)) : α := sumFrom 0 (md.map (·.2.1))
def sumdiffOf (md : List (α × α × α)) : α := sumFrom 0 (md.map (·.2.2))

/-- crop.go:711-719: share of a layer before the limits -/
def pePre (dtgesn trnsum sumdiff : α) (m : α × α × α) : α :=
  if dtgesn ≤ trnsum then dtgesn * m.2.1 / trnsum
  else if dtgesn - trnsum < sumdiff then m.2.1 + (dtgesn - trnsum) * m.2.2 / sumdiff
  else m.2.1 + m.2.2

/-- crop.go:722-727: not more than the mineral N of the layer above 0.75 kg N/ha, not negative -/
def peClamp (c1 pe : α) : α :=
  let p := if c1 - 0.75 < pe then c1 - 0.75 else pe
  if p < 0 then 0 else p

/-- crop.go:710-730 -/
def peOne (dtgesn trnsum sumdiff : α) (m : α × α × α) : α :=
  if 0 < dtgesn then peClamp m.1 (pePre dtgesn trnsum sumdiff m) else 0

/-- crop.go:733-741: N fixation of legumes covers what the soil did not deliver, at most 74 % of the demand -/
def nfixOf (legum : Bool) (dtgesn sumpe : α) : α :=
  if legum then (if 0.74 * dtgesn < dtgesn - sumpe then 0.74 * dtgesn else dtgesn - sumpe) else 0

structure UptakeCore (α : Type) where
  pe : List α       -- PE of the rooted layers
  sumpe : α
  nfix : α
  trnsum : α
  sumdiff : α
  massum : α
  diffsum : α

/-- crop.go:688-743 for the rooted layers `ls` (index 0 … int(min(WURZ, GRW)) − 1) -/
def uptakeCore (legum : Bool) (dt dz dtgesn massum diffsum : α) (ls : List (ULayer α)) : UptakeCore α :=
  let md := massDiff dt dz 0 ls
  let trn := trnsumOf md
  let sd := sumdiffOf md
  let pe := md.map (peOne dtgesn trn sd)
  let sumpe := sumFrom 0 pe
  { pe := pe, sumpe := sumpe, nfix := nfixOf legum dtgesn sumpe, trnsum := trn, sumdiff := sd,
    massum := if 0 < dtgesn then sumFrom massum (md.map (·.2.1)) else massum,
    diffsum := if 0 < dtgesn then sumFrom diffsum (md.map (·.2.2)) else diffsum }

/-- soil state of a layer as `PhytoOut` reads it -/
structure SoilL (α : Type) where
  c1 : α
  tp : α
  wg : α
  ad : α
  ewg : α

def mkLayers (beet : Bool) : Nat → List (SoilL α) → List (α × α) → List α → List (ULayer α)
  | i, s :: ss, (den, _) :: rs, q :: qs =>
    { c1 := s.c1, tp := s.tp, wg := s.wg, ad := s.ad, wrad := wradOf beet i, wudich := den, ewg := s.ewg, sq := q }
      :: mkLayers beet (i + 1) ss rs qs
  | _, _, _, _ => []

structure UptakeIn (α : Type) where
  beet : Bool
  legum : Bool
  active : Bool       -- the crop has emerged (SUM[0] ≥ TSUM[0])
  maxupClass : Nat
  grw : α
  dt : α
  dz : α
  gehmax : α
  obmas : α           -- after the organ update
  wumas : α
  worg3 : α
  wgmax : α           -- WGMAX[INTWICK]
  pesum : α           -- after the deduction for dead leaves / stems
  phyllo : α
  tendsum : α
  massum : α
  diffsum : α
  wumasPre : α        -- WUMAS, OBMAS, GEHOB, WUGEH before the call
  obmasPre : α
  gehobPre : α
  wugehPre : α
  eqs : List (α × α)  -- per rooted layer 1 … WURZ
  soil : List (SoilL α)   -- layers 1 … int(min(WURZ, GRW))
  sq : List α
  peOld : List α      -- PE[0 … N−1] before the call

structure UptakeOut (α : Type) where
  wudich : List α
  wuant : List α
  wulaen : α
  dtgesn : α
  core : UptakeCore α
  pe : List α        -- PE[0 … N−1] after the call
  wugeh : α
  gehob : α

/-- number of layers the uptake loops run over: int(min(WURZ, GRW)) (crop.go:689-690, 708-709) -/
def uptakeLayers (wurz : Nat) (grw : α) : Nat := Conv.truncNat (fmin (Conv.ofNat wurz : α) grw)

/-- The N part of one call of PhytoOut (crop.go:542-546, 557-562, 608-766; annual crop). -/
def uptakeDay (i : UptakeIn α) : UptakeOut α :=
  let rl := rootLayers i.beet i.wumas i.dz 1 0 i.eqs
  let wudich := rl.map (·.1)
  let wulaen := wulaenOf i.dz wudich
  let d0 := demandRaw i.beet i.active i.gehmax i.obmas i.wumas i.worg3 i.wgmax i.pesum i.dt
  let d1 := demandClamp i.dt d0
  let d2 := demandCap i.legum wulaen (maxup i.maxupClass i.phyllo i.tendsum) i.dt d1
  let m := uptakeLayers i.eqs.length i.grw
  let ls := mkLayers i.beet 1 (i.soil.take m) rl i.sq
  let c := uptakeCore i.legum i.dt i.dz d2 i.massum i.diffsum ls
  let wumalt : α := if i.active then i.wumasPre else 0
  let obalt0 : α := if i.active then i.obmasPre else 0
  let gehalt : α := if i.active then i.gehobPre else 0
  let conc : α × α :=
    if i.beet then
      let obalt := if i.active then i.obmasPre + i.worg3 else 0
      let w := wugehBeet wumalt i.wumas obalt i.obmas i.worg3 i.wugehPre c.sumpe i.wgmax
      let gh := gehobBeet i.pesum c.sumpe i.wumas w i.obmas i.worg3
      (wugehBeetFinal i.pesum c.sumpe i.wumas w i.obmas i.worg3 obalt gehalt gh, gh)
    else
      let w := wugehUpdate wumalt i.wumas obalt0 i.obmas i.wugehPre c.sumpe c.nfix i.wgmax
      (w, gehobUpdate i.pesum c.sumpe c.nfix i.wumas w i.obmas)
  { wudich := wudich, wuant := rl.map (·.2), wulaen := wulaen, dtgesn := d2, core := c,
    pe := c.pe ++ i.peOld.drop c.pe.length, wugeh := conc.1, gehob := conc.2 }

end
end Hermes.CropDay
