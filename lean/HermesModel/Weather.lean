/-
Model of the weather input of HERMES (hermes/weather_input.go), as the code is.

Two layers.

* Indexing layer (`Rec`, `Store`, `readMulti`, `readYearFile`, `loadYear`): which record ends up in
  which slot of the per-year arrays.  A data line is abstracted to (calendar year, day of the year,
  payload); the per-year arrays `s.X[yearIdx][dayIdx]`, `s.JAR[yearIdx]`, `s.MaxYearDays[yearIdx]`
  are write logs (newest first; a slot never written reads as the zero value = `none` / `0`).
  `readMulti` is the loop of `ReadWeatherCSV` (weather_input.go:355-448) and of `ReadWeatherCZ`
  (:497-589), which index identically; `readYearFile` is the loop of `WetterK` (:148-175).
* Numeric layer (`replaceMissing`, `transform`, polymorphic in the arithmetic): the in-place passes of
  weather_input.go:597-692 over the first `yrz` year arrays.

Core Lean only; executable (driver ops `weather.*`).
-/
import HermesModel.Num
namespace Hermes.Weather

/-! ### indexing layer -/

/-- One data line: calendar year and day of the year (`time.YearDay()`) of its date, payload.
`Day()==1 && Month()==January` of the Go code is `doy = 1`. -/
structure Rec (π : Type) where
  year : Nat
  doy : Nat
  val : π
  /-- the date token of the line did not parse (`time.Parse` returned an error) -/
  bad : Bool := false
  deriving Repr, DecidableEq

/-- newest-first write log of a two-index array -/
def lookup2 {π : Type} (i j : Nat) : List (Nat × Nat × π) → Option π
  | [] => none
  | (a, b, v) :: r => if a = i ∧ b = j then some v else lookup2 i j r

/-- newest-first write log of an int array (zero-initialised) -/
def lookup1 (i : Nat) : List (Nat × Nat) → Nat
  | [] => 0
  | (a, v) :: r => if a = i then v else lookup1 i r

/-- `WeatherDataShared`: the per-year arrays (one payload per slot), `JAR`, `MaxYearDays`. -/
structure Store (π : Type) where
  cells : List (Nat × Nat × π) := []
  jar : List (Nat × Nat) := []
  maxd : List (Nat × Nat) := []

namespace Store
variable {π : Type}
def get (s : Store π) (i j : Nat) : Option π := lookup2 i j s.cells
def jarAt (s : Store π) (i : Nat) : Nat := lookup1 i s.jar
def maxAt (s : Store π) (i : Nat) : Nat := lookup1 i s.maxd
/-- the writes of one loop body of the multi-year readers (weather_input.go:437-447 / :576-588) -/
def put (s : Store π) (i j : Nat) (v : π) (year T : Nat) : Store π :=
  { cells := (i, j, v) :: s.cells, jar := (i, year) :: s.jar, maxd := (i, T) :: s.maxd }
/-- the writes of one loop body of `WetterK` (weather_input.go:159-174): slot 0 only, JAR untouched -/
def put0 (s : Store π) (j : Nat) (v : π) (T : Nat) : Store π :=
  { s with cells := (0, j, v) :: s.cells, maxd := (0, T) :: s.maxd }
def setJar (s : Store π) (i year : Nat) : Store π := { s with jar := (i, year) :: s.jar }
end Store

/-- `daysInYear` (weather_input.go): `time.Date(year, 12, 31).YearDay()`, Gregorian calendar -/
def daysInYear (y : Nat) : Nat := if y % 4 = 0 ∧ (y % 100 ≠ 0 ∨ y % 400 = 0) then 366 else 365

/-- loop state of `ReadWeatherCSV` / `ReadWeatherCZ` -/
structure MState (π : Type) where
  T : Nat := 0
  yrz : Nat := 0
  first : Bool := true
  store : Store π := {}

inductive StepRes (π : Type) where
  | cont (s : MState π)
  | stop (s : MState π)     -- `break`: more years in the file than were allocated
  | gap                     -- `return` with an error: missing days, or a date that did not parse

/-- (T, yrz) after the first-record fail-safe and the year switch (weather_input.go:417-429). -/
def advance (first : Bool) (T yrz doy : Nat) : Nat × Nat :=
  if first then (doy, 1) else if doy = 1 then (1, yrz + 1) else (T, yrz)

/-- The year switch is taken only directly after 31 December of the previous year: the slot in use
must hold the year before and end on that year's last day. -/
def switchOk {π : Type} (s : MState π) (r : Rec π) : Bool :=
  s.store.jarAt (s.yrz - 1) == r.year - 1 && s.store.maxAt (s.yrz - 1) == daysInYear (r.year - 1)

/-- One pass of the loop body (ReadWeatherCSV; the same statements in ReadWeatherCZ). -/
def multiStep {π : Type} (startyear cap : Nat) (s : MState π) (r : Rec π) : StepRes π :=
  let T := s.T + 1
  if r.bad then .gap                                            -- parse error, reported by anyWeatherError
  else if r.year < startyear then .cont { s with T := T }       -- `continue` (years before the start year)
  else if !s.first && r.doy = 1 && !switchOk s r then .gap      -- 1 January not preceded by a complete year
  else
    let a := advance s.first T s.yrz r.doy
    if r.doy ≠ a.1 then .gap
    else if a.2 > cap then .stop { s with T := a.1, yrz := a.2 - 1, first := false }
    else .cont { T := a.1, yrz := a.2, first := false,
                 store := s.store.put (a.2 - 1) (a.1 - 1) r.val r.year a.1 }

/-- The reading loop. `none` = the reader returned an error ("missing days" / parse error). -/
def readMultiFrom {π : Type} (startyear cap : Nat) : MState π → List (Rec π) → Option (MState π)
  | s, [] => some s
  | s, r :: rs =>
    match multiStep startyear cap s r with
    | .cont s' => readMultiFrom startyear cap s' rs
    | .stop s' => some s'
    | .gap => none

def readMulti {π : Type} (startyear cap : Nat) (recs : List (Rec π)) : Option (MState π) :=
  readMultiFrom startyear cap {} recs

/-- `ReadWeatherCSV`: layout 1 (multi-year file with ISO dates). -/
def readCSV {π : Type} := @readMulti π
/-- `ReadWeatherCZ`: layout 2 (multi-year file with yyyyddd dates); same indexing statements. -/
def readCZ {π : Type} := @readMulti π

inductive YStatus where
  | ok | gap | panic | nofile | empty | beyond
  deriving DecidableEq, Repr

/-- Loop of `WetterK` (weather_input.go:148-175) over the lines (day number T of column 11, payload).
The store is returned in the error case too (the kernel correspondence compares it). -/
def readYearLines {π : Type} (year : Nat) (st : Store π) (tlast : Nat) : List (Nat × π) → Store π × YStatus
  | [] => (st, .ok)
  | (T, v) :: rest =>
    if tlast + 1 ≠ T then (st, .gap)
    else if T > daysInYear year then (st, .beyond)   -- a day number that does not exist in that year
    else readYearLines year (st.put0 (T - 1) v T) T rest

/-- `WetterK` for one year file (`none` = the file cannot be opened: error before `JAR[0] = year`;
no data line = error "no data"). -/
def readYearFile {π : Type} (year : Nat) (st : Store π) : Option (List (Nat × π)) → Store π × YStatus
  | none => (st, .nofile)
  | some [] => (st.setJar 0 year, .empty)
  | some ls => readYearLines year (st.setJar 0 year) 0 ls

/-- The search of `LoadYear` (weather_input.go:715-756) over the `cap` allocated years:
(year index, days) of the first slot whose `JAR` equals the year; `none` = the error
"requested year was not loaded". -/
def findYear {π : Type} (s : Store π) (year : Nat) : List Nat → Option (Nat × Nat)
  | [] => none
  | i :: rest => if s.jarAt i = year then some (i, s.maxAt i) else findYear s year rest

def loadYear {π : Type} (s : Store π) (cap year : Nat) : Option (Nat × Nat) :=
  findYear s year (List.range cap)

/-- The copy loop of `LoadYear`: entries below `days` are overwritten, the rest of the global arrays
(`g.TEMP[…]`, …) keeps what an earlier year left there. -/
def gLoad {π : Type} (g : List (Option π)) (s : Store π) (i days : Nat) : List (Option π) :=
  (List.range 366).map fun t => if t < days then s.get i t else (g.getD t none)

/-! ### numeric layer -/

section
variable {α : Type} [Add α] [Mul α] [Div α] [LT α] [DecidableLT α] [BEq α]
  [OfNat α 0] [OfNat α 2] [OfNat α 10] [OfScientific α]

/-- the entries of one day the two passes read or write -/
structure Day (α : Type) where
  tmp : α
  verd : α
  sund : α
  radi : α
  reg : α
  win : α
  deriving Repr

abbrev Grid (α : Type) := List (List (Day α))

def zeroDay : Day α := ⟨0, 0, 0, 0, 0, 0⟩

def get2 (g : Grid α) (y i : Nat) : Day α := (g.getD y []).getD i zeroDay
def set2 (g : Grid α) (y i : Nat) (d : Day α) : Grid α := g.set y ((g.getD y []).set i d)

/-- neighbour `next` as computed by replaceMissingValues: after the last day of a year, index 0 of
the next loaded year -/
def nextPos (maxd : List Nat) (yrz y index : Nat) : Option (Nat × Nat) :=
  if index + 1 ≥ maxd.getD y 0 then (if y + 1 ≥ yrz then none else some (y + 1, 0))
  else some (y, index + 1)

/-- neighbour `prev` as computed by weather_input.go:636,646-649 -/
def prevPos (maxd : List Nat) (y index : Nat) : Option (Nat × Nat) :=
  if index = 0 then
    (if y > 0 then (if maxd.getD (y - 1) 0 = 0 then none else some (y - 1, maxd.getD (y - 1) 0 - 1)) else none)
  else some (y, index - 1)

/-- one optional value with both neighbours available (weather_input.go:651-669) -/
def fillMean (nv v p n : α) : α := if v == nv && p != nv && n != nv then (p + n) / 2 else v
/-- sentinel → 0 (weather_input.go:670-689) -/
def fillZero (nv v : α) : α := if v == nv then 0 else v

/-- body of the inner loop of `replaceMissingValues` for the cell (y, index) -/
def fillCell (nv : α) (maxd : List Nat) (yrz : Nat) (g : Grid α) (y index : Nat) : Grid α :=
  let c := get2 g y index
  let c1 : Day α :=
    match prevPos maxd y index, nextPos maxd yrz y index with
    | some (py, pi), some (ny, ni) =>
      let p := get2 g py pi
      let n := get2 g ny ni
      { c with tmp := fillMean nv c.tmp p.tmp n.tmp, verd := fillMean nv c.verd p.verd n.verd,
               sund := fillMean nv c.sund p.sund n.sund }
    | _, _ => { c with tmp := fillZero nv c.tmp, verd := fillZero nv c.verd, sund := fillZero nv c.sund }
  set2 g y index { c1 with sund := fillZero nv c1.sund, radi := fillZero nv c1.radi, reg := fillZero nv c1.reg }

/-- the cells in loop order: y = 0 … yrz−1, index = 0 … MaxYearDays[y]−1 -/
def cellsOf (maxd : List Nat) (yrz : Nat) : List (Nat × Nat) :=
  (List.range yrz).flatMap fun y => (List.range (maxd.getD y 0)).map fun i => (y, i)

/-- `replaceMissingValues` (weather_input.go:627-692) -/
def replaceMissing (nv : α) (maxd : List Nat) (yrz : Nat) (g : Grid α) : Grid α :=
  (cellsOf maxd yrz).foldl (fun g c => fillCell nv maxd yrz g c.1 c.2) g

/-- day of the year handed to `getCorrValue`: in a leap year the days after 28 February are shifted
back by one, so that the non-leap boundaries of `getCorrValue` are those of the actual months -/
def corrDoy (leap : Bool) (doy : Nat) : Nat := if leap && doy > 59 then doy - 1 else doy

/-- `getCorrValue` (weather_input.go:189-218): index into the 12 monthly factors by fixed
(non-leap) day-of-year boundaries. -/
def corrMonth (T : Nat) : Nat :=
  if T < 32 then 0 else if T < 60 then 1 else if T < 91 then 2 else if T < 121 then 3
  else if T < 152 then 4 else if T < 182 then 5 else if T < 213 then 6 else if T < 244 then 7
  else if T < 274 then 8 else if T < 305 then 9 else if T < 335 then 10 else 11

/-- precipitation mm → cm times the monthly factor (weather_input.go:614) -/
def regenT (v cor : α) : α := v / 10 * cor
/-- global radiation → PAR (weather_input.go:617) -/
def parT (v : α) : α := v / 2
/-- the wind floor (weather_input.go:620-622) -/
def windFloor (v : α) : α := if v < 0.5 then 0.5 else v

/-- body of the inner loop of `transformWeatherData` for the cell (y, index): precipitation,
radiation and the wind floor of that cell (since the repair "weather loader applies the 0.5 m/s wind
floor to every loaded day" the floor is applied to the cell of the loop index). -/
def transformCell (corr : List α) (jar _maxd : List Nat) (_yrz : Nat) (g : Grid α) (y index : Nat) : Grid α :=
  let c := get2 g y index
  let leap := daysInYear (jar.getD y 0) == 366
  set2 g y index { c with reg := regenT c.reg (corr.getD (corrMonth (corrDoy leap (index + 1))) 0), radi := parT c.radi,
                          win := windFloor c.win }

/-- `transformWeatherData` (weather_input.go:597-625) -/
def transform (corr : List α) (jar maxd : List Nat) (yrz : Nat) (g : Grid α) : Grid α :=
  (cellsOf maxd yrz).foldl (fun g c => transformCell corr jar maxd yrz g c.1 c.2) g

end

end Hermes.Weather
