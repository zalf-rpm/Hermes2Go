/-
Model of the column binding and of the record writer of hermes/output_fmt.go
(LoadHermesOutputConfig 2047-2138, WriteLine 2141-2185, valueByReflection 2187-2210,
OutputLine.Add, writeCSVString, writeHermesString).  Core Lean only, executable.

The model is about *how many fields* reach the file: which columns of a configuration contribute
a formatted text, how many separators are written and whether a record line is written at all.
The formatted texts themselves (fmt.Sprintf) are not modelled; a text is assumed not to contain the
separator / a line break (what the search stage checks on the real files).
-/
namespace Hermes.Output

/-- Go types as far as the binding by reflection distinguishes them (below the top level a struct
is never descended into: `structVal`). -/
inductive Ty
  | string | int | float64 | bool
  | namedInt      -- a defined type of kind int (CropType, DateFormat, GroundWaterFrom, …)
  | basic         -- every other type of a basic kind (bool/int*/uint*/float*/string, named or not)
  | opaque        -- func, chan, map, pointer, interface, …
  | structVal     -- a struct value reached below the top level
  | slice (elem : Ty)
  | array (len : Nat) (elem : Ty)
  deriving DecidableEq, Repr

/-- Type of a top-level field of the bound struct (`v.FieldByName(varName)`). -/
inductive FieldTy
  | missing                                  -- no such field: invalid reflect.Value
  | plain (t : Ty)
  | struct (fields : List (String × Ty))     -- e.g. DualType {Index int, Num float64, Offset int}
  deriving DecidableEq, Repr

/-- `valueRef` of a column after LoadHermesOutputConfig. -/
inductive Ref
  | na               -- binding failed: valueRef = NotAvailableValue (a Go `string`)
  | ptr (t : Ty)     -- `f.Addr().Interface()`: pointer to a variable of type `t`
  deriving DecidableEq, Repr

/-- `f.FieldByName(subName)` on a struct value. -/
def lookup (fields : List (String × Ty)) (sub : String) : Option Ty :=
  match fields.find? (fun p => p.1 == sub) with
  | some p => some p.2
  | none => none

/-- output_fmt.go:2108-2110: a struct field is replaced by its sub-field (`VAR.Sub`); an unknown
(or empty) sub-name gives the invalid value. -/
def descend (ft : FieldTy) (sub : String) : Option Ty :=
  match ft with
  | .missing => none
  | .plain t => some t
  | .struct fs => lookup fs sub

/-- output_fmt.go:2111-2123: one or two array index steps with the bound checks (`goto failed`).
`none` = binding failed. -/
def indexSteps (t : Ty) (i1 i2 : Nat) : Option Ty :=
  match t with
  | .array n e =>
    if i1 ≥ n then none else
    match e with
    | .array m e2 => if i2 ≥ m then none else some e2
    | _ => some e
  | _ => some t

/-- LoadHermesOutputConfig, the per-column part (2096-2135). Fields of `*g` are addressable, so
`CanAddr` holds whenever the value is valid. -/
def bind (ft : FieldTy) (sub : String) (i1 i2 : Nat) : Ref :=
  match descend ft sub with
  | none => .na
  | some t =>
    match indexSteps t i1 i2 with
    | none => .na
    | some t' => .ptr t'

/-- Kinds `valueByReflection` writes as a value (its `switch v.Kind()`). -/
def Ty.isBasic : Ty → Bool
  | .string | .int | .float64 | .bool | .namedInt | .basic => true
  | _ => false

/-- What a column contributes to the line. -/
inductive Cell
  | value     -- the formatted value of the variable
  | na        -- the formatted not-available text
  | panic     -- WriteLine panics (index beyond the length of a `[]float64`)
  deriving DecidableEq, Repr

/-- The type switch of WriteLine and its fallback `valueByReflection`: every column adds exactly
one text. `i1` = VarIndex1, `sliceLen` = run-time length of a bound slice. -/
def cell (r : Ref) (i1 sliceLen : Nat) : Cell :=
  match r with
  | .na => .na                                   -- case string
  | .ptr .string => .value                       -- case *string
  | .ptr .int => .value                          -- case *int
  | .ptr .float64 => .value                      -- case *float64
  | .ptr .bool => .value                         -- case *bool
  | .ptr (.slice .float64) =>                    -- case *[]float64: `val[idx]` without a guard
    if i1 ≥ sliceLen then .panic else .value
  | .ptr (.slice e) =>                           -- default: valueByReflection, slice branch
    if i1 ≥ sliceLen then .na else if e.isBasic then .value else .na
  | .ptr t => if t.isBasic then .value else .na  -- default: valueByReflection

/-- Does the column contribute a text? After the repair of the default clause: always. -/
def emits (_ : Ref) : Bool := true

/-- OutputLine.Add (2277-2282): the counter advances only below `len`. -/
def addField (len counter : Nat) : Nat := if counter < len then counter + 1 else counter

/-- The loop of WriteLine over the columns: final `outLine.counter`. -/
def countLoop (len : Nat) : List Ref → Nat → Nat
  | [], c => c
  | r :: rest, c => countLoop len rest (if emits r then addField len c else c)

/-- `outLine.counter` after the column loop (`len = numDataColumns = number of columns`). -/
def counter (refs : List Ref) : Nat := countLoop refs.length refs 0

inductive Style | fixed | csv
  deriving DecidableEq, Repr

def Style.ofCode : Nat → Style
  | 0 => .fixed      -- hermesOut
  | _ => .csv        -- csvOut

/-- Separators written by writeCSVString (2302-2312): one after slot `i` iff `i < counter − 1`
(Go `int`: with `counter = 0` no slot qualifies). -/
def csvSeparators (len counter : Nat) : Nat :=
  ((List.range len).filter fun i => decide (i + 1 < counter)).length

/-- Is a line break written (2314-2321 / 2389-2396)? -/
def lineBreak (counter : Nat) : Bool := decide (counter > 0)

/-- What one WriteLine call puts into the file: `none` = nothing at all (no record),
`some n` = one record line with `n` fields.
CSV: the `counter` texts joined by `counter − 1` separators, line break iff `counter > 0`.
Fixed width: writeHermesString returns an error *before writing anything* when
`numDataColumns ≠ counter` (run.go ignores the error; cannot happen any more since every column
adds a text); otherwise every column is written padded to its width and followed by one fill
character. -/
def record (style : Style) (refs : List Ref) : Option Nat :=
  let c := counter refs
  match style with
  | .csv => if lineBreak c then some (csvSeparators refs.length c + 1) else none
  | .fixed => if refs.length ≠ c then none else if lineBreak c then some c else none

/-- Length (in runes) of a fixed-width record before the line break: every column takes
`max width (length of its text)` cells plus one fill character (2331-2386). -/
def fixedLineLen : List (Nat × Nat) → Nat
  | [] => 0
  | (width, len) :: rest => (if width > len then width else len) + 1 + fixedLineLen rest

/-- Start cell of every column of a fixed-width record whose texts fit their widths. -/
def fixedStarts : List Nat → Nat → List Nat
  | [], _ => []
  | w :: rest, at_ => at_ :: fixedStarts rest (at_ + w + 1)

/-! ### text form used by the driver -/

def Ty.text : Ty → String
  | .string => "string" | .int => "int" | .float64 => "float64" | .bool => "bool"
  | .namedInt => "named" | .basic => "basic" | .opaque => "opaque" | .structVal => "struct"
  | .slice e => "[]" ++ e.text
  | .array n e => "[" ++ toString n ++ "]" ++ e.text

def Ref.text : Ref → String
  | .na => "na"
  | .ptr t => "*" ++ t.text

/-- Prefix grammar: `string|int|float64|bool|named|opaque|structval`, `slice T`, `array n T`. -/
def parseTy : Nat → List String → Option (Ty × List String)
  | 0, _ => none
  | _ + 1, [] => none
  | fuel + 1, tok :: rest =>
    match tok with
    | "string" => some (.string, rest)
    | "int" => some (.int, rest)
    | "float64" => some (.float64, rest)
    | "bool" => some (.bool, rest)
    | "named" => some (.namedInt, rest)
    | "basic" => some (.basic, rest)
    | "opaque" => some (.opaque, rest)
    | "structval" => some (.structVal, rest)
    | "slice" => match parseTy fuel rest with
      | some (e, r) => some (.slice e, r)
      | none => none
    | "array" => match rest with
      | n :: rest' => match n.toNat?, parseTy fuel rest' with
        | some n, some (e, r) => some (.array n e, r)
        | _, _ => none
      | [] => none
    | _ => none

def parseFields (fuel : Nat) : Nat → List String → Option (List (String × Ty) × List String)
  | 0, r => some ([], r)
  | k + 1, name :: r =>
    match parseTy fuel r with
    | some (t, r') => match parseFields fuel k r' with
      | some (fs, r'') => some ((name, t) :: fs, r'')
      | none => none
    | none => none
  | _ + 1, [] => none

/-- `missing` | `struct k name T …` | `T`. -/
def parseFieldTy (toks : List String) : Option (FieldTy × List String) :=
  match toks with
  | "missing" :: r => some (.missing, r)
  | "struct" :: k :: r => match k.toNat? with
    | some k => match parseFields toks.length k r with
      | some (fs, r') => some (.struct fs, r')
      | none => none
    | none => none
  | _ => match parseTy toks.length toks with
    | some (t, r) => some (.plain t, r)
    | none => none

end Hermes.Output
