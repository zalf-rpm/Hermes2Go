/-
Model of the scheduled-management bookkeeping of HERMES (core Lean only, executable).

* reading of the fertiliser / tillage / irrigation files in hermes/input.go (`Input`): lines of other
  fields skipped, an event dated before the simulation start is dropped (fertiliser, tillage: by re-using
  its slot and clearing the slot behind the last event; irrigation: once BEGINN is known), dates that are
  not after their predecessor moved to the day after it (state after the fixes C10-1 … C10-3);
* the three cursors: nitro.go:56-69 (fertiliser NDG/ZTDG), nitro.go:245-288 (tillage NTIL/EINTE),
  run.go:470-484 (irrigation NBR/ZTBR) as state machines over ZEIT;
* the fertiliser split `dueng` (input.go:1551-1568), polymorphic over the arithmetic;
* irrigation entering the rain of the day before `Evatra` (run.go:470-472, water.go:485,513).

Day numbers (`ZEIT`, the `masDat` of `Datum`) are `Nat`; the Go arrays are fixed-size and
zero-initialised, they are modelled as lists read with `getD · 0`.
-/
namespace Hermes.Schedule

/-- One data line of a schedule file: does its field id equal the simulated field (`SCHLAG == g.PKT`),
its day number, and the index of the line (stands for the payload: amount, kind, depth …). -/
structure Ev where
  own : Bool
  date : Nat
  id : Nat
  deriving Repr, DecidableEq

/-- State of a reading loop: the slots filled so far (`kept`, in order) and the content of the slot
after them (`stale`): the counter is incremented, the slot written, and the counter decremented again
when the date is before `BEGINN` (input.go:320-322, 685-687, 720-722), so the next event overwrites it. -/
structure ReadSt where
  kept : List Ev := []
  stale : Option Ev := none
  deriving Repr, DecidableEq

/-- The reading loop over the data lines (the nested `for` of input.go:309-325 / 675-690 / 709-725:
lines of other fields only end the inner loop and are discarded). -/
def readLoop (beginn : Nat) : List Ev → ReadSt → ReadSt
  | [], st => st
  | e :: r, st =>
    if !e.own then readLoop beginn r st
    else if e.date < beginn then readLoop beginn r { st with stale := some e }
    else readLoop beginn r { kept := st.kept ++ [e], stale := none }

def read (beginn : Nat) (ls : List Ev) : ReadSt := readLoop beginn ls {}

/-- day numbers in the slots: the kept events; the slot behind them is cleared after the loop
(`EINTE[NRTIL+1] = 0`, `ZTDG[NDu] = 0`, input.go), its payload cells keep the dropped line -/
def keptDates (st : ReadSt) : List Nat := st.kept.map (·.date)

/-- The same-day shift `if D[i+1] <= D[i] { D[i+1] = D[i]+1 }`, sequentially from the front over the
filled slots; `prev` is the (already shifted) predecessor (input.go, tillage and fertiliser readers):
a date that is not after its predecessor moves to the day after the predecessor. -/
def shiftFrom (prev : Nat) : List Nat → List Nat
  | [] => []
  | d :: r =>
    let d' := if d ≤ prev then prev + 1 else d
    d' :: shiftFrom d' r

/-- shift of a list whose first element has no predecessor inside the loop (tillage: `i` starts at 1) -/
def shiftList : List Nat → List Nat
  | [] => []
  | d :: r => d :: shiftFrom d r

/-- `ZTDG[0 …]` after `Input`: slot 0 is the harvest of the pre-crop (= BEGINN), the user events follow
from slot 1 (`NDu := 1`), the shift loop runs over the pairs (0,1) … (NDu-2,NDu-1); then the cleared cell. -/
def fertDates (beginn : Nat) (ls : List Ev) : List Nat :=
  beginn :: (shiftFrom beginn (keptDates (read beginn ls)) ++ [0])

/-- `EINTE[1 …]` after `Input` (tillage slots are 1-based; `EINT`/`TILART` 0-based); then the cleared cell. -/
def tilDates (beginn : Nat) (ls : List Ev) : List Nat :=
  shiftList (keptDates (read beginn ls)) ++ [0]

/-- `BEGINN` as the irrigation reading loop sees it: the irrigation file is read before
`g.BEGINN = g.ERNTE[0]`, so the comparison `ZTBR < BEGINN` inside the loop is made against the zero value
and keeps every line of the field … -/
def irrBeginnAtRead : Nat := 0

/-- … and the events dated before the start are dropped, order kept, right after BEGINN is set
(input.go, behind `g.BEGINN = g.ERNTE[0]`). -/
def irrKept (beginn : Nat) (ls : List Ev) : List Ev :=
  (read irrBeginnAtRead ls).kept.filter fun e => decide (beginn ≤ e.date)

/-- `ZTBR[0 …]` after `Input` (no same-day shift; the cells behind the last event are cleared) -/
def irrDates (beginn : Nat) (ls : List Ev) : List Nat := (irrKept beginn ls).map (·.date)

/-! ### cursors -/

/-- A cursor over an array of execution days: on day `zeit` the pending slot `k` fires iff
`zeit == D[k]`, and the cursor moves on by one (at most one event per day).
Fertiliser: `D[k] = ZTDG[k] + 1` (nitro.go:58), irrigation: `D[k] = ZTBR[k]` with `k = NBR-1`
(run.go:470), tillage: `D[k] = EINTE[k+1] + 1` (nitro.go:245). Result: fired (day, slot) pairs. -/
def runCursor (ds : List Nat) : Nat → List Nat → List (Nat × Nat)
  | _, [] => []
  | k, zeit :: days =>
    if zeit = ds.getD k 0 then (zeit, k) :: runCursor ds (k + 1) days
    else runCursor ds k days

/-- the days `b, b+1, …` (n of them): the loop `for ZEIT := BEGINN; ZEIT <= ENDE; ZEIT++` (run.go:315) -/
def daysFrom (b : Nat) : Nat → List Nat
  | 0 => []
  | n + 1 => b :: daysFrom (b + 1) n

/-- execution days of the fertiliser slots: `zeit == ZTDG[NDG]+1` -/
def fertExecDays (ztdg : List Nat) : List Nat := ztdg.map (· + 1)
/-- execution days of the tillage slots: `zeit == EINTE[NTIL+1]+1` (argument: `EINTE[1 …]`) -/
def tilExecDays (einte1 : List Nat) : List Nat := einte1.map (· + 1)

/-- The tillage cursor with the postponement of nitro.go:233-239: when the pending tillage date is
reached while a crop with automatic harvest is standing (`SAAT[AKF] > 0 && ERNTE[AKF] == 0`, only
possible with AutoHarvest) the date moves on by two days. `pending zeit` is that condition.
State: `NTIL`, `EINTE[1 …]`. -/
def runTillage (pending : Nat → Bool) : Nat → List Nat → List Nat → List (Nat × Nat)
  | _, _, [] => []
  | k, einte, zeit :: days =>
    let d := einte.getD k 0
    let einte' := if zeit = d && pending zeit then einte.set k (d + 2) else einte
    if zeit = einte'.getD k 0 + 1 then (zeit, k) :: runTillage pending (k + 1) einte' days
    else runTillage pending k einte' days

/-- nitro.go (tillage step): the mixing and the management event are inside `if g.EINT[NTIL] > 0`, the
increment `g.NTIL.Inc()` is behind it — a tillage line of depth 0 is carried out as "nothing", moves the
cursor like any other line (`runTillage` does not look at the depth) and writes no event. Fertiliser lines
with amount 0 and irrigation lines with 0 mm are not treated specially (event written, amounts 0). -/
def tillageLogged (depth : Nat) : Bool := decide (0 < depth)

/-! ### fertiliser split and irrigation (numeric, polymorphic) -/

section
variable {α : Type} [Add α] [Sub α] [Mul α] [Div α] [Neg α] [OfNat α 1] [OfScientific α]

/-- one row of FERTILIZ.TXT: Ntot Ndir Nfst Nslo NH4 Loss -/
structure FertRow (α : Type) where
  ntot : α
  ndir : α
  nfst : α
  nslo : α
  nh4 : α
  loss : α

structure FertSplit (α : Type) where
  ndir : α   -- NDIR: mineral N → DSUMM
  nh4n : α   -- NH4N: ammonium part → NH4Sum
  nsas : α   -- NSAS: fast organic → NFOS[0]
  nlas : α   -- NLAS: slow organic → NAOS[0]

/-- `DGMG = quantity × DUNGSZEN` (input.go:716), then `dueng` (input.go:1558-1564), same operation order. -/
def dueng (quantity factor : α) (t : FertRow α) : FertSplit α :=
  let dgmg := quantity * factor
  let ndir0 := dgmg * t.ntot * t.ndir
  let nh4n := ndir0 * t.nh4 * (1 - t.loss)
  let ndir := ndir0 - ndir0 * t.nh4 * t.loss
  let nsas := (dgmg * t.ntot - ndir) * t.nfst
  let nlas := (dgmg * t.ntot - ndir) * t.nslo
  { ndir, nh4n, nsas, nlas }

/-- pools after the fertiliser step of nitro.go:59-63: (NFOS[0], NAOS[0], DSUMM, NH4Sum) -/
def applyFert (nfos0 naos0 dsumm nh4sum : α) (s : FertSplit α) : α × α × α × α :=
  (nfos0 + s.nsas, naos0 + s.nlas, dsumm + s.ndir, nh4sum + s.nh4n)

/-- run.go:471-472: `EffectiveIRRIG = BREG/10`, `REGEN[TAG] += EffectiveIRRIG` -/
def irrigate (regen breg : α) : α × α :=
  let eff := breg / (10.0 : α)
  (eff, regen + eff)

/-- water.go:485,513 (inside `Evatra`, which runs after the irrigation block):
`EVA = ETA − REGEN[TAG]`, `FLUSS0 = −EVA`. -/
def fluss0 (eta regen : α) : α := -(eta - regen)

end

end Hermes.Schedule
