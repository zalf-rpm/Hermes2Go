/-
Model of the crop routine `PhytoOut` (hermes/crop.go), annual crops: the development-stage machine
(crop.go:130-181, 286-291) with its thermal increment and the factors of the increment (vernalisation
`vern` crop.go:1008-1043, photoperiod 245-264, acceleration by stress 266-285), the organ update with
its floors and the LAI update (452-505), the N-stress factor REDUK (424-440), the N concentrations
(744-766) and the rooting depth (572-606).  Transcendental values (`exp` in REDUK, the photoperiodic
day length DLP, the root distribution coefficient Qrez of `root`, the photosynthesis numbers GPHOT and
MAINT of `radia`) are inputs.  The automatic regrowth of permanent crops (522-541) is not modelled:
the property is claimed for annual crops only.  Polymorphic in the arithmetic (see Num.lean).
-/
import HermesModel.Num
namespace Hermes.Crop

section
variable {α : Type} [Add α] [Sub α] [Mul α] [Div α] [Neg α] [LT α] [DecidableLT α] [LE α] [DecidableLE α]
  [OfNat α 0] [OfNat α 1] [OfScientific α] [Conv α]

/-! ### small helpers -/

/-- `l[i] := v` (nothing happens beyond the end) -/
def setAt {β : Type} : Nat → β → List β → List β
  | _, _, [] => []
  | 0, v, _ :: xs => v :: xs
  | i + 1, v, x :: xs => x :: setAt i v xs

/-- Go `math.Max` (no NaN) -/
def fmax (a b : α) : α := if a < b then b else a
/-- Go `math.Min` (no NaN) -/
def fmin (a b : α) : α := if b < a then b else a
/-- the clamp `if x > 1 {x = 1}; if x < 0 {x = 0}` (crop.go:259-264) -/
def clamp01 (x : α) : α :=
  let y := if 1 < x then 1 else x
  if y < 0 then 0 else y
/-- Go `math.Abs` -/
def fabs (x : α) : α := if x < 0 then -x else x

/-! ### factors of the thermal increment -/

/-- crop.go:1016-1030: vernalisation effectiveness of the day's mean temperature. -/
def vernEff (t : α) : α :=
  if t < 0 ∧ (-(4.0 : α)) < t then (t + 4.0) / 4.0
  else if t < -(4.0 : α) then 0
  else if 3.0 < t ∧ t < 7.0 then 1 - 0.2 * (t - 3.0) / 4.0
  else if 7.0 < t ∧ t < 9.0 then 0.8 - 0.4 * (t - 7.0) / 2.0
  else if 9.0 < t ∧ t < 18.0 then 0.4 - 0.4 * (t - 9.0) / 9.0
  else if t < -(4.0 : α) ∨ 18.0 < t then 0
  else 1

/-- crop.go:1031-1042 (`vern`): new VERNTAGE and the vernalisation factor FV. -/
def vern (verntage vschwell temp dt : α) : α × α :=
  let vt := verntage + vernEff temp * dt
  let vs := fmin vschwell 9.0 - 1
  if 1 ≤ vs then
    let fv := (vt - vs) / (vschwell - vs)
    (vt, if fv < 0 then 0 else if 1 < fv then 1 else fv)
  else (vt, 1)

/-- crop.go:239-244: FV = 1 without a vernalisation requirement, else `vern`. Result (VERNTAGE', FV). -/
def vernFactor (verntage vschwell temp dt : α) : α × α :=
  if vschwell < 0 ∨ 0 < vschwell then vern verntage vschwell temp dt else (verntage, 1)

/-- crop.go:245-264: photoperiod factor FP from the photoperiodic day length DLP. -/
def fpFactor (dlp dayl dlbas : α) : α :=
  let raw :=
    if 0 < dayl then (dlp - dlbas) / (dayl - dlbas)
    else if dayl < 0 then
      if dlp ≤ fabs dayl then 1 else (dlp - fabs dlbas) / (fabs dayl - fabs dlbas)
    else 1
  clamp01 raw

/-- crop.go:266-285: acceleration of development by N stress (not for ZR, SM) and by drought
(not when the transpiration deficit comes from air shortage, LURED < 1). `math.Pow(x, 2)` is `x*x`. -/
def devProg (noNAccel : Bool) (reduk trrel dryswell lured : α) : α :=
  let nprog := if noNAccel then 1 else 1 + (1 - reduk) * (1 - reduk)
  let wprog :=
    if trrel < dryswell then (if lured < 1 then 1 else 1 + 0.2 * ((1 - trrel) * (1 - trrel))) else 1
  fmax nprog wprog

/-- crop.go:288: (TEMP − BAS)·FV·FP·devprog·DT -/
def thermalInc (temp bas fv fp devprog dt : α) : α := (temp - bas) * fv * fp * devprog * dt

/-- crop.go:287-291: the increment of SUM[INTWICK] and PHYLLO of the day (0 below the base temperature). -/
def dayIncrement (temp bas fv fp devprog dt : α) : Option α :=
  if bas ≤ temp then some (thermalInc temp bas fv fp devprog dt) else none

/-- crop.go:131-137: increment of SUM[0] before emergence (reduced when the top layer is dry). -/
def emergInc (temp bas wg0 w0 wmin0 dt : α) : Option α :=
  if bas < temp then
    let thr := 0.3 * (w0 - wmin0) + wmin0
    if thr < wg0 then some ((temp - bas) * dt) else some ((temp - bas) * (wg0 / thr) * dt)
  else none

/-! ### the stage machine -/

/-- development state: stage index (INTWICK.Index, 0-based), temperature sums per stage, day on which
each stage was entered (`DEV`). -/
structure Stage (α : Type) where
  intwick : Nat
  sum : List α
  dev : List Nat

def addOpt (x : α) : Option α → α
  | some d => x + d
  | none => x

/-- crop.go:150-157: the stage test. When the temperature sum of the current stage is reached and the
stage is not the last one, the surplus is carried into the next stage, INTWICK is incremented and the
day is recorded. Only evaluated once the crop has emerged (`SUM[0] >= TSUM[0]`). -/
def advance (nrentw day : Nat) (tsum : List α) (s : Stage α) : Stage α × Bool :=
  let si := s.sum.getD s.intwick 0
  let ti := tsum.getD s.intwick 0
  if ti ≤ si ∧ s.intwick + 1 < nrentw then
    ({ intwick := s.intwick + 1, sum := setAt (s.intwick + 1) (si - ti) s.sum,
       dev := setAt (s.intwick + 1) day s.dev }, true)
  else (s, false)

/-- emerged: `SUM[0] >= TSUM[0]` (crop.go:150) -/
def emerged (tsum : List α) (s : Stage α) : Bool := decide (tsum.getD 0 0 ≤ s.sum.getD 0 0)

/-- The stage part of one call of PhytoOut with the two increments of the day as inputs:
`e` is added to SUM[0] while the crop is in its first stage (crop.go:130-137), then the stage test,
then `d idx` (the thermal increment for the stage the crop is in after the test) is added to
SUM[INTWICK] (crop.go:287-288) — only once emerged. -/
def stageStep (nrentw day : Nat) (tsum : List α) (e : Option α) (d : Nat → Option α) (s : Stage α) : Stage α × Bool :=
  let s1 : Stage α := if s.intwick = 0 then { s with sum := setAt 0 (addOpt (s.sum.getD 0 0) e) s.sum } else s
  if emerged tsum s1 then
    let a := advance nrentw day tsum s1
    let s2 := a.1
    ({ s2 with sum := setAt s2.intwick (addOpt (s2.sum.getD s2.intwick 0) (d s2.intwick)) s2.sum }, a.2)
  else (s1, false)

/-- a season: the days between sowing and harvest with their labels and increments -/
def run (nrentw : Nat) (tsum : List α) : List (Nat × Option α × (Nat → Option α)) → Stage α → Stage α
  | [], s => s
  | (day, e, d) :: rest, s => run nrentw tsum rest (stageStep nrentw day tsum e d s).1

/-- Inputs of the stage part of one day as the code has them. Lists have 10 entries. -/
structure DayIn (α : Type) where
  nrentw : Nat
  doy : Nat
  noNAccel : Bool
  temp : α
  dt : α
  wg0 : α
  w0 : α
  wmin0 : α
  dlp : α
  reduk : α
  trrel : α
  lured : α
  verntage : α
  fvOld : α
  fpOld : α
  phyllo : α
  tsum : List α
  bas : List α
  vschwell : List α
  dayl : List α
  dlbas : List α
  dryswell : List α

structure DayOut (α : Type) where
  st : Stage α
  advanced : Bool
  phyllo : α
  verntage : α
  fv : α
  fp : α

/-- The stage part of one call of PhytoOut (annual crop, not the sowing day). -/
def stageDay (i : DayIn α) (s : Stage α) : DayOut α :=
  let e := if s.intwick = 0 then emergInc i.temp (i.bas.getD 0 0) i.wg0 i.w0 i.wmin0 i.dt else none
  let s1 : Stage α := if s.intwick = 0 then { s with sum := setAt 0 (addOpt (s.sum.getD 0 0) e) s.sum } else s
  if emerged i.tsum s1 then
    let a := advance i.nrentw i.doy i.tsum s1
    let k := a.1.intwick
    let v := vernFactor i.verntage (i.vschwell.getD k 0) i.temp i.dt
    let fp := fpFactor i.dlp (i.dayl.getD k 0) (i.dlbas.getD k 0)
    let dp := devProg i.noNAccel i.reduk i.trrel (i.dryswell.getD k 0) i.lured
    let d := dayIncrement i.temp (i.bas.getD k 0) v.2 fp dp i.dt
    { st := { a.1 with sum := setAt k (addOpt (a.1.sum.getD k 0) d) a.1.sum }, advanced := a.2,
      phyllo := addOpt i.phyllo d, verntage := v.1, fv := v.2, fp := fp }
  else { st := s1, advanced := false, phyllo := i.phyllo, verntage := i.verntage, fv := i.fvOld, fp := i.fpOld }

/-! ### organ update (crop.go:452-505) -/

/-- per-organ inputs -/
structure OrganPar (α : Type) where
  mant : α       -- share of the organ in the maintenance respiration
  proPrev : α    -- partitioning at the end of the previous / current stage
  proCur : α
  deadPrev : α   -- death rate at the end of the previous / current stage
  deadCur : α

structure OrganEnv (α : Type) where
  dt : α
  gtw : α        -- GPHOT + ASPOO
  maint : α
  reduk : α
  sumI : α       -- SUM[INTWICK], TSUM[INTWICK]
  tsumI : α
  lastStage : Bool   -- ¬ (int(INTWICK.Num) < NRENTW)
  laifktPrev : α
  laifktCur : α
  laifkt0 : α

/-- crop.go:453-459: growth and death rate of one organ; `dOld` is the death rate left from the
previous day (kept when the stage's temperature sum is exceeded). -/
def rates (e : OrganEnv α) (p : OrganPar α) (w dOld : α) : α × α :=
  if 1 < e.sumI / e.tsumI then (0, dOld)
  else
    (e.gtw * 0.7 * (p.proPrev + (p.proCur - p.proPrev) * e.sumI / e.tsumI) * e.reduk - (e.maint * p.mant * 0.7),
     w * (p.deadPrev + (p.deadCur - p.deadPrev) * (fmin 1 (e.sumI / e.tsumI))))

/-- crop.go:463-469: organs 1-3 (root, leaf, stem): explicit update, or — when that would not leave
more than 1e-13 — the death rate is set to what is there and the mass to 0.1. Result (WORG', DGORG'). -/
def updLow (dt w g d : α) : α × α :=
  if 1e-13 < w + (g - d) * dt then (w + g * dt - d * dt, d) else (0.1, w / dt + g)

/-- crop.go:470-480: organs 4-5 (storage): a third of what died in the three organs before is
relocated (not in the last stage), floor at 0. Result (WORG', DGORG'). -/
def updHigh (dt : α) (lastStage : Bool) (w g d d1 d2 d3 : α) : α × α :=
  let w1 := if lastStage then w + g * dt - d * dt
            else w + g * dt - d * dt + 0.3 * (d1 * dt + d2 * dt + d3 * dt)
  if w1 < 0 then (0, d + w1 / dt) else (w1, d)

/-- crop.go:481-491: LAI follows the leaf (organ 2), clamp at 0; LAIMAX is overwritten whenever
LAI grew. Result (LAI', LAIMAX'). -/
def updLai (e : OrganEnv α) (lai laimax g d : α) : α × α :=
  let l1 := lai + g * (e.laifktPrev + (e.sumI / e.tsumI * (e.laifktCur - e.laifktPrev))) * e.dt - d * e.laifkt0 * e.dt
  let l2 := if l1 < 0 then 0 else l1
  (l2, if lai < l2 then l2 else laimax)

/-- crop.go:206-208 -/
def laiFloor (lai : α) : α := if lai ≤ 0 then 0.001 else lai

structure OrgState (α : Type) where
  worg : List α     -- updated organs so far (in order)
  gorg : List α
  dgorg : List α    -- updated death rates so far, most recent first
  lai : α
  laimax : α
  pesum : α

/-- one pass of the loop body for organ number `i` (0-based). -/
def organStep (e : OrganEnv α) (gehalt : α) (st : OrgState α) (i : Nat) (p : OrganPar α) (w dOld : α) : OrgState α :=
  let r := rates e p w dOld
  let u := if i < 3 then updLow e.dt w r.1 r.2
           else updHigh e.dt e.lastStage w r.1 r.2 (st.dgorg.getD 0 0) (st.dgorg.getD 1 0) (st.dgorg.getD 2 0)
  let l := if i = 1 then updLai e st.lai st.laimax r.1 u.2 else (st.lai, st.laimax)
  let pes := if i = 1 ∨ i = 2 then st.pesum - 0.7 * u.2 * gehalt * e.dt else st.pesum
  { worg := st.worg ++ [u.1], gorg := st.gorg ++ [r.1], dgorg := u.2 :: st.dgorg, lai := l.1, laimax := l.2, pesum := pes }

/-- the loop over the organs: `orgs` = (parameters, WORG[i], DGORG[i] of the day before) per organ -/
def organLoop (e : OrganEnv α) (gehalt : α) : Nat → List (OrganPar α × α × α) → OrgState α → OrgState α
  | _, [], st => st
  | i, (p, w, d) :: rest, st => organLoop e gehalt (i + 1) rest (organStep e gehalt st i p w d)

/-- crop.go:515-517: above-ground mass = Σ WORG[komp−1] over the listed organs, in order from 0 -/
def obmas (above : List Nat) (worg : List α) : α :=
  above.foldl (fun s k => s + worg.getD (k - 1) 0) 0

structure OrgOut (α : Type) where
  worg : List α
  gorg : List α
  dgorg : List α   -- in organ order
  lai : α
  laimax : α
  pesum : α
  aspoo : α
  obmas : α

/-- The organ / LAI / assimilate-pool part of one call of PhytoOut (crop.go:206-208, 224-227, 452-517).
`lai0`, `laimax0`, `pesum0` are the values before the call (LAI gets its floor first). -/
def organs (e : OrganEnv α) (gehalt lai0 laimax0 pesum0 : α) (above : List Nat) (orgs : List (OrganPar α × α × α)) : OrgOut α :=
  let st := organLoop e gehalt 0 orgs { worg := [], gorg := [], dgorg := [], lai := laiFloor lai0, laimax := laimax0, pesum := pesum0 }
  { worg := st.worg, gorg := st.gorg, dgorg := st.dgorg.reverse, lai := st.lai, laimax := st.laimax, pesum := st.pesum,
    aspoo := 0 + e.gtw * (1 - e.reduk), obmas := obmas above st.worg }

/-! ### N stress factor (crop.go:424-440) -/

def minin (ngefkt : Nat) : α := if ngefkt = 1 then 0.005 else 0.004

/-- AUX of crop.go:435 -/
def aux (ngefkt : Nat) (gehob gehmin : α) : α := (gehob - minin ngefkt) / (gehmin - minin ngefkt)

/-- exponent handed to `exp`: 1 + 1/(AUX − 1) -/
def redukExponent (ngefkt : Nat) (gehob gehmin : α) : α := 1 + 1 / (aux ngefkt gehob gehmin - 1)

/-- REDUK with `e = exp (redukExponent …)` as an input -/
def reduk (ngefkt : Nat) (gehob gehmin e : α) : α :=
  if gehob < gehmin then
    if gehob ≤ minin ngefkt then 0 else (1 - e) * (1 - e)
  else 1

/-! ### N concentrations (crop.go:744-766) -/

/-- crop.go:744-758: root N concentration after a day. With root growth, and when the guard
`ΔOBMAS + ΔWUMAS > 0` holds, the root receives the fraction min(1, ΔWUMAS / denom) of the day's uptake
(the cap at 1 is the repair of the C09 finding); the result is capped by WGMAX and has the floor 0.005.
`guardv` is the guard expression, `denom` the denominator (they differ for sugar beet / potato). -/
def wugehCore (wumalt wumas guardv denom wugeh uptake wgmax : α) : α :=
  if wumalt < wumas then
    let w1 := if 0 < guardv
              then (wumalt * wugeh + fmin 1 ((wumas - wumalt) / denom) * uptake) / wumas
              else wugeh
    let w2 := fmin w1 wgmax
    if w2 < 0.005 then 0.005 else w2
  else wugeh

/-- crops other than ZR / K (crop.go:750-752): uptake = SUMPE + NFIX -/
def wugehUpdate (wumalt wumas obalt obmas wugeh sumpe nfix wgmax : α) : α :=
  wugehCore wumalt wumas (obmas - obalt + wumas - wumalt) (obmas - obalt + wumas - wumalt) wugeh (sumpe + nfix) wgmax

/-- crop.go:765: N concentration of the above-ground mass = (crop N − root N) / OBMAS -/
def gehobUpdate (pesum sumpe nfix wumas wugeh obmas : α) : α := (pesum + sumpe + nfix - wumas * wugeh) / obmas

/-- ZR / K (crop.go:746-748): `obalt` = OBMAS of the day before + WORG[3] (crop.go:507), the storage organ
WORG[3] is part of the denominator but not of the guard; uptake = SUMPE (no fixation). -/
def wugehBeet (wumalt wumas obalt obmas worg3 wugeh sumpe wgmax : α) : α :=
  wugehCore wumalt wumas (obmas - obalt + wumas - wumalt) (obmas + worg3 - obalt + wumas - wumalt) wugeh sumpe wgmax

/-- crop.go:760 -/
def gehobBeet (pesum sumpe wumas wugeh obmas worg3 : α) : α := (pesum + sumpe - wumas * wugeh) / (obmas + worg3)

/-- crop.go:761-763: when the N amount of the tops fell, WUGEH is recomputed from the balance
(algebraically the same value). -/
def wugehBeetFinal (pesum sumpe wumas wugeh obmas worg3 obalt gehalt gehob : α) : α :=
  if gehob * (obmas + worg3) < obalt * gehalt then (pesum + sumpe - (obmas + worg3) * gehob) / wumas else wugeh

/-! ### rooting depth (crop.go:572-606) -/

/-- crop.go:572-578: layer limit WURM = round(WURZMAX · WUMAXPF/11), at most N, at least 1 -/
def rootLimit (wurzmax n : Nat) (wumaxpf : α) : α :=
  let w : α := Conv.ofNat (Conv.roundNat ((Conv.ofNat wurzmax : α) * (wumaxpf / 11.0)))
  let w := if (Conv.ofNat n : α) < w then Conv.ofNat n else w
  if w < 1 then 1 else w

/-- crop.go:597-603 -/
def qrezClamp (qrez wurm dz : α) : α :=
  let q := if 0.35 < qrez then 0.35 else qrez
  if q < 4.5 / (wurm * dz) then 4.5 / (wurm * dz) else q

/-- crop.go:606: WURZ = int(4.5 / Qrez / DZ) -/
def rootDepth (wurzmax n : Nat) (wumaxpf dz qrez : α) : Nat :=
  Conv.truncNat (4.5 / qrezClamp qrez (rootLimit wurzmax n wumaxpf) dz / dz)

end
end Hermes.Crop
