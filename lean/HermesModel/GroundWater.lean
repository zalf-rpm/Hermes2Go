/-
Model of the groundwater level of a day (C20):

* `GetGroundWaterLevel`                       hermes/soil.go:738-765  → `getLevel`
* mean and amplitude from the polygon file    hermes/input.go:68-73   → `gwMean`, `gwAmpl`
* the daily sinusoid                          hermes/run.go:379, hermes/init.go:12 → `sinArg`, `sinusLevel`

A series is the list of the records of the series file in file order: (day number, level).
`GWTimestamps` is the list of the first components, `GWTimeSeriesValues` the Go map built from the
records (a later record of the same day overwrites the earlier one).  Day numbers are natural
numbers (the day-number origin is 1, see C12); the Go code uses the value 0 as "no neighbour".
Polymorphic in the arithmetic (see Num.lean); `sin` is an input of the model.  Core Lean only.
-/
import HermesModel.Num
namespace Hermes.GroundWater

/-- Go `float64(i)` for an int that may be negative (GRLO − GRHI) -/
class IntConv (α : Type) where
  ofInt : Int → α

instance : IntConv Float where
  ofInt i := Float.ofInt i

section
variable {α : Type}

/-- `g.GWTimeSeriesValues[date]` with the comma-ok flag: the last record of the day -/
def mapGet : List (Nat × α) → Nat → Option α
  | [], _ => none
  | (d, v) :: r, date =>
    match mapGet r date with
    | some w => some w
    | none => if d = date then some v else none

/-- soil.go:747-754: `for _, d := range g.GWTimestamps { if d < date { prevDate = d } else if d > date
{ nextDate = d; break } }`, started with `prev` and nextDate = 0.  Result (prevDate, nextDate). -/
def neighbours (date : Nat) : List Nat → Nat → Nat × Nat
  | [], prev => (prev, 0)
  | d :: ds, prev =>
    if d < date then neighbours date ds d
    else if date < d then (prev, d)
    else neighbours date ds prev

variable [Add α] [Sub α] [Mul α] [Div α] [OfNat α 0] [Conv α]

/-- soil.go:763: the interpolation formula in the operation order of the code -/
def interpolate (p n date : Nat) (vp vn : α) : α :=
  (vn - vp) / Conv.ofNat (n - p) * Conv.ofNat (date - p) + vp

/-- `GetGroundWaterLevel(g, date)`; `none` = the error "no ground water level found" -/
def getLevel (s : List (Nat × α)) (date : Nat) : Option α :=
  match mapGet s date with
  | some l => some l
  | none =>
    let pn := neighbours date (s.map (·.1)) 0
    if pn.1 = 0 ∧ pn.2 = 0 then none
    else if pn.1 = 0 then some ((mapGet s pn.2).getD 0)
    else if pn.2 = 0 then some ((mapGet s pn.1).getD 0)
    else some (interpolate pn.1 pn.2 date ((mapGet s pn.1).getD 0) ((mapGet s pn.2).getD 0))

end

section
variable {α : Type} [Add α] [Sub α] [Mul α] [Div α] [OfNat α 2] [OfNat α 180] [IntConv α]

/-- input.go:71-72: `g.GW = float64(g.GRLO+g.GRHI) / 2` -/
def gwMean (grhi grlo : Int) : α := IntConv.ofInt (grlo + grhi) / 2

/-- input.go:73: `g.AMPL = float64(g.GRLO-g.GRHI) / 2` -/
def gwAmpl (grhi grlo : Int) : α := IntConv.ofInt (grlo - grhi) / 2

/-- run.go:379: `(g.TAG.Num+float64(g.GWPhase))*math.Pi/180` -/
def sinArg (tag : α) (phase : Int) (pi : α) : α := (tag + IntConv.ofInt phase) * pi / 180

/-- run.go:379: `g.GRW = g.GW - (g.AMPL * math.Sin(…))` with the sine value as an input -/
def sinusLevel (gw ampl sinv : α) : α := gw - ampl * sinv

end
end Hermes.GroundWater
