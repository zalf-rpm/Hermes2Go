/-
C14 — configuration precedence: batch line over project configuration over defaults; unknown keys
are ignored; the order of the arguments is irrelevant.
The model (HermesModel/Config.lean) is a transcription of hermes/config.go:82-192 and run.go:37-43; the default
table and the field names/kinds are in HermesModel/Generated/ConfigFacts.lean (regenerated from the source on every
run).  All theorems hold for every float type `F` and every behaviour `pf` of strconv.ParseFloat;
the general ones hold for every default table, so they survive a changed default or a new key.
Compared with the implementation by the harness on every run, not here: the documented defaults
(HermesModel/ConfigDoc.lean; `default:<Key>` violations carry the concrete input: no file, no arguments) and the eight
documented spellings of the on/off keys (1/0, on/off, yes/no, true/false; regenerated from `featureSwitchStrToID`), so
a changed spelling shows up with a concrete batch line.
-/
import HermesProofs.Config
namespace Hermes.Config

section
variable {F : Type} (pf : String → Option F)

/-- For every key `k` of the configuration (default `v0`), whenever the run gets
as far as having a configuration: the effective value is the argument of that name on the batch
line (the last one, read into the kind of the field), otherwise the value of the configuration
file, otherwise the default. -/
theorem C14_precedence (dflt : Table F) (file : List (String × FileVal F))
    (kvs : List (String × String)) (cfg : Table F) (h : effectiveKV pf dflt file kvs = some cfg)
    (k : String) (v0 : Val F) (hk : lookup dflt k = some v0) :
    ∃ lower, lowerLayer v0 file k = some lower ∧
      lookup cfg k = match lookup (argMapKV kvs) k with
                     | some text => overrideVal pf lower text
                     | none => some lower := by
  unfold effectiveKV at h
  cases hf : applyFile dflt file with
  | none => simp [hf] at h
  | some t =>
    simp only [hf] at h
    obtain ⟨lower, hlow, hl⟩ := lookup_applyFile dflt t file hf k v0 hk
    refine ⟨lower, hlow, ?_⟩
    rw [lookup_overrideAll pf (argMapKV kvs) (argMapKV_nodup kvs) t cfg h k, hl]
    cases lookup (argMapKV kvs) k <;> rfl

/-- The same per kind, spelled out: a text key takes the text of the line verbatim, a numeric key
the number the text parses to, an on/off key the meaning of one of the listed spellings. -/
theorem C14_line_value_used (dflt : Table F) (file : List (String × FileVal F))
    (kvs : List (String × String)) (cfg : Table F) (h : effectiveKV pf dflt file kvs = some cfg)
    (k text : String) (hline : lookup (argMapKV kvs) k = some text) :
    (∀ s, lookup dflt k = some (.text s) → lookup cfg k = some (.text text)) ∧
    (∀ i j, lookup dflt k = some (.int i) → parseInt64 text = some j → lookup cfg k = some (.int j)) ∧
    (∀ x y, lookup dflt k = some (.float x) → pf text = some y → lookup cfg k = some (.float y)) ∧
    (∀ b c, lookup dflt k = some (.switch b) → switchOf text = some c →
        lookup cfg k = some (.switch c)) := by
  -- the value below the line has the kind of the default, and `overrideVal` reads the text into that kind
  have key : ∀ v0, lookup dflt k = some v0 →
      ∃ lower : Val F, lower.ctorIdx = v0.ctorIdx ∧ lookup cfg k = overrideVal pf lower text := by
    intro v0 hk
    obtain ⟨lower, hlow, hc⟩ := C14_precedence pf dflt file kvs cfg h k v0 hk
    rw [hline] at hc
    exact ⟨lower, lowerLayer_kind _ _ _ _ hlow, hc⟩
  refine ⟨fun s hk => ?_, fun i j hk hp => ?_, fun x y hk hp => ?_, fun b c hk hp => ?_⟩
  -- `cases lower <;> cases hkind` leaves the constructor of the default's kind
  all_goals
    obtain ⟨lower, hkind, hc⟩ := key _ hk
    rw [hc]; cases lower <;> cases hkind
  · rfl
  · simp [overrideVal, hp]
  · simp [overrideVal, hp]
  · simp [overrideVal, hp]

/-- **Unknown keys are ignored**: arguments whose name is no configuration key, and tokens that are
not of the form key=value, can be removed from the batch line without changing the effective
configuration (wherever they stand, however often they occur). -/
theorem C14_unknown_keys_ignored (dflt : Table F) (file : List (String × FileVal F)) :
    (∀ kvs : List (String × String),
      effectiveKV pf dflt file kvs =
        effectiveKV pf dflt file (kvs.filter fun kv => (lookup dflt kv.1).isSome)) ∧
    (∀ toks : List String,
      effective pf dflt file toks =
        effectiveKV pf dflt file
          ((toks.filterMap splitToken).filter fun kv => (lookup dflt kv.1).isSome)) := by
  -- the token form is the pair form at the pairs of the tokens
  refine (and_iff_left_of_imp ?_).mpr fun kvs => ?_
  · exact fun key toks => key _
  unfold effectiveKV
  cases hf : applyFile dflt file with
  | none => rfl
  | some t =>
    simp only
    rw [argMapKV_filter (fun k => (lookup dflt k).isSome) kvs]
    refine overrideAll_filter pf (fun k => (lookup dflt k).isSome) _ t fun k hk => ?_
    rw [applyFile_keys dflt t file hf, ← lookup_eq_none_iff]
    simpa using hk

/-- Argument lists that are permutations of each other, with pairwise
distinct keys, give the same effective configuration (or the same failure) — although the Go code
walks its argument map in random order. -/
theorem C14_order_independent (dflt : Table F) (file : List (String × FileVal F)) :
    (∀ kvs1 kvs2 : List (String × String), kvs1.Perm kvs2 → (kvs1.map (·.1)).Nodup →
      effectiveKV pf dflt file kvs1 = effectiveKV pf dflt file kvs2) ∧
    (∀ toks1 toks2 : List String, toks1.Perm toks2 →
      ((toks1.filterMap splitToken).map (·.1)).Nodup →
      effective pf dflt file toks1 = effective pf dflt file toks2) := by
  -- the token form is the pair form at the pairs of the tokens
  refine (and_iff_left_of_imp ?_).mpr fun kvs1 kvs2 hp hnd => ?_
  · exact fun key toks1 toks2 hp hnd => key _ _ (hp.filterMap splitToken) hnd
  have hnd2 : (kvs2.map (·.1)).Nodup := (hp.map (·.1)).nodup_iff.mp hnd
  unfold effectiveKV
  cases applyFile dflt file with
  | none => rfl
  | some t =>
    simp only
    rw [argMapKV_of_nodup kvs1 hnd, argMapKV_of_nodup kvs2 hnd2]
    exact overrideAll_perm pf kvs1 kvs2 hp hnd t

/-- The loop over the argument map may visit the entries in any order (the Go map range is
random): the result is the same. -/
theorem C14_map_order_irrelevant (t : Table F) (m1 m2 : List (String × String)) (hp : m1.Perm m2)
    (hnd : (m1.map (·.1)).Nodup) : overrideAll pf t m1 = overrideAll pf t m2 :=
  overrideAll_perm pf m1 m2 hp hnd t

/-- **A repeated key: the last one wins** (so with a repeated key the order does matter; this is
outside the property's quantifier, which speaks of subsets of keys). -/
theorem C14_duplicate_key_last_wins (dflt : Table F) (file : List (String × FileVal F))
    (kvs : List (String × String)) (k v : String) (cfg : Table F)
    (h : effectiveKV pf dflt file (kvs ++ [(k, v)]) = some cfg) (v0 : Val F)
    (hk : lookup dflt k = some v0) :
    lookup (argMapKV (kvs ++ [(k, v)])) k = some v ∧
    ∃ lower, lowerLayer v0 file k = some lower ∧ lookup cfg k = overrideVal pf lower v := by
  have hl : lookup (argMapKV (kvs ++ [(k, v)])) k = some v := by
    rw [argMapKV_snoc, lookup_insertArg]; simp
  refine ⟨hl, ?_⟩
  obtain ⟨lower, hlow, hc⟩ := C14_precedence pf dflt file (kvs ++ [(k, v)]) cfg h k v0 hk
  rw [hl] at hc
  exact ⟨lower, hlow, hc⟩

/-- Applying the arguments of a batch line to the configuration they produced
changes nothing (so a configuration written back to config.yml and run with the same line gives
the same run). -/
theorem C14_override_idempotent (t t1 : Table F) (kvs : List (String × String))
    (h : overrideAll pf t (argMapKV kvs) = some t1) : overrideAll pf t1 (argMapKV kvs) = some t1 :=
  overrideAll_idem pf (argMapKV kvs) (argMapKV_nodup kvs) t t1 h

/-- An on/off key given on the line with a text outside the spelling table keeps the value of the
lower layer (config.go:181-185); a numeric key with an unparsable text stops the run. -/
theorem C14_invalid_values (b : Bool) (x : F) (i : Int) (text : String) :
    (switchOf text = none → overrideVal pf (.switch b) text = some (.switch b)) ∧
    (pf text = none → overrideVal pf (.float x) text = none) ∧
    (parseInt64 text = none → overrideVal pf (Val.int i : Val F) text = none) := by
  refine ⟨fun h => ?_, fun h => ?_, fun h => ?_⟩ <;> simp [overrideVal, h]

/-- The post-processing of readConfig touches only the weather folder, the weather root folder and
the result-file extension, and these only when they are empty (or start with "./"). -/
theorem C14_finalize_keeps_values (root : String) (t : Table F) (k : String)
    (h1 : k ≠ "WeatherFolder") (h2 : k ≠ "WeatherRootFolder") (h3 : k ≠ "ResultFileExt") :
    lookup (finalize root t) k = lookup t k := by
  unfold finalize
  simp only []
  rw [lookup_updText _ _ _ _ h3, lookup_updText _ _ _ _ h2, lookup_updText _ _ _ _ h2,
    lookup_updText _ _ _ _ h1]

end

/-- Field names are pairwise distinct, so `lookup` addresses every field. -/
theorem C14_field_names_distinct : (Generated.configFields.map (·.1)).Nodup := by decide +kernel

def demo : Table Unit :=
  [("LeachingDepth", .int 15), ("EndDate", .text "31122010"), ("AutoIrrigation", .switch true)]

/-- With a repeated key the order of the arguments matters (the last one wins). -/
theorem C14_duplicate_key_order_matters :
    effectiveKV (fun _ => none) demo [] [("LeachingDepth", "3"), ("LeachingDepth", "5")] ≠
    effectiveKV (fun _ => none) demo [] [("LeachingDepth", "5"), ("LeachingDepth", "3")] := by decide

example : effectiveKV (fun _ => none) demo [("LeachingDepth", ⟨none, none, some 9⟩)]
    [("Foo", "1"), ("AutoIrrigation", "off"), ("EndDate", "31121990")] =
    some [("LeachingDepth", .int 9), ("EndDate", .text "31121990"), ("AutoIrrigation", .switch false)] := by
  decide +kernel

example : effective (fun _ => none) demo [] ["LeachingDepth=7", "bare", "a=b=c", "leachingdepth=2"] =
    some [("LeachingDepth", .int 7), ("EndDate", .text "31122010"), ("AutoIrrigation", .switch true)] := by
  decide +kernel

end Hermes.Config
