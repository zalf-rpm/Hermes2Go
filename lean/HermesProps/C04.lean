/-
C04 — every simulated day is driven by the weather record of exactly that date; uncovered days,
gaps and missing year files end the run with an error.

Models: HermesModel/Weather.lean
(readers, LoadYear, normalisation passes of hermes/weather_input.go), HermesModel/DayLoop.lean (first load, day
counter, year roll-over and reload of hermes/run.go), HermesModel/WeatherNorm.lean (the two normalisation passes
in place on the arrays the readers filled, and the whole run with them), HermesModel/Calendar.lean (C12).

Reading of the property: `tagNum` = TAG.Index + 1 is the day of the year whose slot is consumed,
`1900 + j` the year whose arrays are loaded. "Driven by the record of that date" = the slot consumed
on day ZEIT holds the record whose (year, day of year) is the calendar date of ZEIT. A run "ends
with an error" = the model of `Run` returns `none`.

The models follow the code after the repairs `fix: Run returns the errors of LoadYear/WetterK`,
`fix: … neighbour of 31 December`, `fix: weather years must be complete`, `fix: precipitation factor
of the month in leap years`. What is still violated is stated as `…_fails_at` (concrete witness,
replayed on the implementation by the harness) next to the `…_partial` statement that does hold.
-/
import HermesProofs.Weather
import HermesProofs.WeatherReaders
import HermesProofs.WeatherRun
import HermesProofs.WeatherNormRun
namespace Hermes.Weather
open Hermes.Calendar Hermes.DayLoop

/-- For every run that ends without error, if no loaded year is longer than its
calendar year, then on every simulated day the calendar date of ZEIT (C12's `kalenderDate`) is day
`TAG.Index + 1` of year `1900 + J`: the slot consumed is the slot of that date. Any number of days,
any start day, leap years and year changes included. (That a year is not *shorter* than needed is
not a hypothesis: the run leaves a year only when its weather reaches 31 December.) -/
theorem C04_dayloop_calendar_lockstep {π : Type} (src : Source π) (n : Nat) (st : DState π)
    (days : List (DayOut π)) (hrun : runDays src n st = some days) (h0 : LockPre st)
    (hb : ∀ d ∈ days, d.jtag ≤ diy d.j ∧ d.j ≤ 199) (d : DayOut π) (hd : d ∈ days) :
    ∃ mon tg, ValidDate d.j mon tg ∧ kalenderDate d.zeit = some (d.j + 1900, mon, tg) ∧
      ztdat d.j mon tg = d.tagNum :=
  isDay_kalender (lockstep_run src n st days hrun h0 hb d hd)

/-- The state `Run` enters the loop with satisfies the hypothesis of the lock-step theorem when the
start day number is day `ITAG` of the start year. -/
theorem C04_init_in_step {π : Type} (src : Source π) (store : Store π) (anjahr beginn itag : Nat)
    (st : DState π) (hs : initState src store anjahr beginn itag = some st)
    (hy : 1901 ≤ anjahr) (hy2 : anjahr ≤ 2099) (hi : 1 ≤ itag) (hi2 : itag ≤ diy (anjahr - 1900))
    (hb : beginn + 1 = masdat (anjahr - 1900) 1 1 + itag) (hl : st.jtag ≤ diy (anjahr - 1900)) :
    LockPre st := by
  obtain ⟨a, b, c⟩ := initState_fields hs
  unfold LockPre
  rw [a, b, c]
  omega

/-- The arrays loaded before the loop are those of
`StartYear` (`J = StartYear − 1900`); the first statement of the first pass ends the run when the
calendar year of the first simulated day is another year — the weather of `StartYear` is never
consumed under the dates of another year. -/
theorem C04_start_year_mismatch_is_error {π : Type} (src : Source π) (n : Nat) (st : DState π)
    (y m d : Nat) (hk : kalenderDate st.zeit = some (y, m, d)) (hne : y ≠ 1900 + st.j) :
    runLoop src (n + 1) st = none := by
  simp [runLoop, startYearOk, hk, hne]

/-- The same for the whole run, both kinds of layout: `StartYear` ≠ year of the start day ⇒ error. -/
theorem C04_start_year_mismatch_ends_run {π : Type} (recs : List (Rec π))
    (files : Nat → Option (List (Nat × π))) (anjahr cap beginn itag n y m d : Nat)
    (hk : kalenderDate beginn = some (y, m, d)) (hy : 1900 ≤ anjahr) (hne : y ≠ anjahr) :
    runMulti recs anjahr cap beginn itag (n + 1) = none ∧ runPerYear files anjahr beginn itag (n + 1) = none := by
  have key : ∀ {src : Source π} {store : Store π} {st : DState π}, initState src store anjahr beginn itag = some st →
      runLoop src (n + 1) st = none := fun hs => by
    obtain ⟨a, b, _⟩ := initState_fields hs
    exact C04_start_year_mismatch_is_error _ n _ y m d (a ▸ hk) (by rw [b]; omega)
  constructor
  · unfold runMulti
    split
    · rfl
    · split
      · rfl
      · exact key ‹_›
  · unfold runPerYear
    split
    · rfl
    · exact key ‹_›

/-- One pass that returns no error never loses a day: ZEIT is untouched by the weather bookkeeping
and the counters move to the next slot, or to slot 1 of the next year — the latter only when the
loaded weather reaches the last day of the calendar year. -/
theorem C04_day_counter_step {π : Type} (src : Source π) (st st' : DState π)
    (h : advanceDay src st = some st') :
    st'.zeit = st.zeit ∧
    ((st.tagNum + 1 > st.jtag ∧ ¬ st.jtag < daysInYear (1900 + st.j) ∧ st'.j = st.j + 1 ∧ st'.tagNum = 1) ∨
     (¬ st.tagNum + 1 > st.jtag ∧ st'.j = st.j ∧ st'.tagNum = st.tagNum + 1)) :=
  advanceDay_some h

/-- **Alignment, multi-year layouts** (`ReadWeatherCSV`, layout 1): for a gap-free series of dates —
any first day, possibly starting before the start year, possibly running beyond the allocated
years — the reader returns no error and the record of date (y, doy), y from the start year on and
within the allocated years, is in slot `[y − y₀][doy − 1]`, `JAR[y − y₀] = y` and `MaxYearDays` of
that year is the largest day of the year read for it (y₀ = year of the first record kept). -/
theorem C04_reader_alignment_csv {π : Type} (startyear cap : Nat) (recs : List (Rec π))
    (hv : ∀ r ∈ recs, ValidRec r) (hg : GapFree recs) :
    ∃ ms, readCSV startyear cap recs = some ms ∧
      ∀ r ∈ recs, startyear ≤ r.year → r.year < firstYear startyear recs + cap →
        ms.store.get (r.year - firstYear startyear recs) (r.doy - 1) = some r.val ∧
        ms.store.jarAt (r.year - firstYear startyear recs) = r.year ∧
        r.doy ≤ ms.store.maxAt (r.year - firstYear startyear recs) ∧
        ∃ q ∈ recs, q.year = r.year ∧ ms.store.maxAt (r.year - firstYear startyear recs) = q.doy := by
  obtain ⟨ms, hread, hA⟩ := readMulti_alignedStore startyear cap recs hv hg
  refine ⟨ms, hread, fun r hr h1 h2 => ?_⟩
  exact ⟨hA.get hr h1 h2, hA.jarAt hr h1 h2, hA.doy_le_maxAt hr h1 h2, hA.maxAt_is_doy hr h1 h2⟩

/-- **Alignment, layout 2** (`ReadWeatherCZ`): the same statements index the arrays. -/
theorem C04_reader_alignment_cz {π : Type} (startyear cap : Nat) (recs : List (Rec π))
    (hv : ∀ r ∈ recs, ValidRec r) (hg : GapFree recs) :
    ∃ ms, readCZ startyear cap recs = some ms ∧
      ∀ r ∈ recs, startyear ≤ r.year → r.year < firstYear startyear recs + cap →
        ms.store.get (r.year - firstYear startyear recs) (r.doy - 1) = some r.val ∧
        ms.store.jarAt (r.year - firstYear startyear recs) = r.year ∧
        r.doy ≤ ms.store.maxAt (r.year - firstYear startyear recs) ∧
        ∃ q ∈ recs, q.year = r.year ∧ ms.store.maxAt (r.year - firstYear startyear recs) = q.doy :=
  C04_reader_alignment_csv startyear cap recs hv hg

/-- **Alignment, layout 0** (`WetterK`): a year file with the lines of days 1 … n (1 ≤ n ≤ days of that year) is
read without error, line T is in slot `[0][T − 1]`, `JAR[0]` is the year and `MaxYearDays[0] = n`. -/
theorem C04_reader_alignment_yearfile {π : Type} (year : Nat) (st : Store π) (vals : List π)
    (hne : vals ≠ []) (hn : vals.length ≤ daysInYear year) :
    (readYearFile year st (some (numberFrom 1 vals))).2 = YStatus.ok ∧
    (readYearFile year st (some (numberFrom 1 vals))).1.jarAt 0 = year ∧
    (vals ≠ [] → (readYearFile year st (some (numberFrom 1 vals))).1.maxAt 0 = vals.length) ∧
    ∀ k (hk : k < vals.length), (readYearFile year st (some (numberFrom 1 vals))).1.get 0 k = some vals[k] := by
  obtain ⟨st', e, b, c, d⟩ := readYearFile_aligned year st vals hne hn
  rw [e]
  exact ⟨rfl, b, fun _ => c, d⟩

/-- **Gap detection inside a year, multi-year layouts**: after a record of day T, a record from the
start year on that is neither day T + 1 nor a 1 January makes the reader return its error. -/
theorem C04_reader_rejects_gap {π : Type} (startyear cap : Nat) (s : MState π) (hs : s.first = false)
    (r : Rec π) (rest : List (Rec π)) (hy : startyear ≤ r.year) (h1 : r.doy ≠ 1) (hg : r.doy ≠ s.T + 1) :
    readMultiFrom startyear cap s (r :: rest) = none := by
  have : ¬ r.year < startyear := by omega
  cases hb : r.bad
  · simp [readMultiFrom, multiStep_gap startyear cap s r hb this hs h1 hg]
  · simp [readMultiFrom, multiStep_bad_date startyear cap s r hb]

/-- **A date that does not parse is an error**: a line whose date token `time.Parse` rejects makes
the multi-year readers return an error — in every state, before or after the start year; it is
never skipped, and no later line can take its place. -/
theorem C04_unparsable_date_is_error {π : Type} (startyear cap : Nat) (s : MState π) (r : Rec π)
    (rest : List (Rec π)) (hb : r.bad = true) : readMultiFrom startyear cap s (r :: rest) = none := by
  simp [readMultiFrom, multiStep_bad_date startyear cap s r hb]

/-- **Gap detection at the year switch, multi-year layouts**: a 1 January is accepted only directly
after 31 December of the year before — if the year slot in use holds year `ly` up to day `ld`, a
1 January of any year but `ly + 1`, or after a last day `ld` that is not the last day of `ly`, makes
the reader return its error (missing days before a 1 January, a missing year, a repeated
1 January). -/
theorem C04_reader_rejects_gap_before_jan1 {π : Type} (startyear cap : Nat) (s : MState π)
    (hs : s.first = false) (r : Rec π) (rest : List (Rec π)) (hy : startyear ≤ r.year) (hy1 : 1 ≤ r.year)
    (h1 : r.doy = 1) (ly ld : Nat) (hj : s.store.jarAt (s.yrz - 1) = ly) (hm : s.store.maxAt (s.yrz - 1) = ld)
    (hbad : r.year ≠ ly + 1 ∨ ld ≠ daysInYear ly) :
    readMultiFrom startyear cap s (r :: rest) = none := by
  have hns : ¬ r.year < startyear := by omega
  -- an accepted switch would make `ly` the year before and `ld` its length
  have hsw : switchOk s r = false := by
    rw [Bool.eq_false_iff]
    intro h
    simp only [switchOk, hj, hm, Bool.and_eq_true, beq_iff_eq] at h
    obtain ⟨rfl, rfl⟩ := h
    omega
  simp [readMultiFrom, multiStep_bad_switch startyear cap s r hns hs h1 hsw]

/-- **Gap detection, layout 0**: a line whose day number is not the previous one plus one (in
particular a file that does not start with day 1) stops `WetterK` with its error. -/
theorem C04_yearfile_rejects_gap {π : Type} (year : Nat) (st : Store π) (tlast T : Nat) (v : π)
    (rest : List (Nat × π)) (hg : T ≠ tlast + 1) :
    (readYearLines year st tlast ((T, v) :: rest)).2 = YStatus.gap := by
  have : ¬ tlast + 1 = T := fun h => hg h.symm
  simp [readYearLines, this]

/-- **A day number beyond the end of the year is an error** (layout 0): a line numbered 366 in the
file of a 365-day year (or 367 in any year) stops `WetterK` with an error; `MaxYearDays` — hence
`JTAG` — never exceeds the length of the calendar year. -/
theorem C04_yearfile_rejects_day_beyond_year_end {π : Type} (year : Nat) (st : Store π) (tlast T : Nat)
    (v : π) (rest : List (Nat × π)) (hc : T = tlast + 1) (hb : T > daysInYear year) :
    (readYearLines year st tlast ((T, v) :: rest)).2 = YStatus.beyond := by
  simp [readYearLines, hc.symm, hb]

/-- **Layout 0**: a year file without a data line stops `WetterK` with its error, too. -/
theorem C04_yearfile_rejects_empty {π : Type} (year : Nat) (st : Store π) :
    (readYearFile year st (some ([] : List (Nat × π)))).2 = YStatus.empty := rfl

/-- `LoadYear` finds exactly the slot of the requested year. -/
theorem C04_loadYear_finds_year {π : Type} (s : Store π) (cap year i d : Nat)
    (h : loadYear s cap year = some (i, d)) : i < cap ∧ s.jarAt i = year ∧ d = s.maxAt i :=
  have := (loadYear_eq_some s cap year i d).mp h
  ⟨this.1.2.1, this.1.1, this.2⟩

/-- `LoadYear` returns its error exactly when no allocated slot holds the requested year. -/
theorem C04_loadYear_error_iff_not_loaded {π : Type} (s : Store π) (cap year : Nat) :
    loadYear s cap year = none ↔ ∀ i, i < cap → s.jarAt i ≠ year := by
  simp [loadYear, findYear_eq_find?]

/-- After a successful `LoadYear` for year `1900 + J` the slot consumed for
day-of-year t + 1 (t below the loaded year length) holds what the readers stored in slot `[i][t]` of
the year slot whose `JAR` is exactly `1900 + J`, and `JTAG` is that year's `MaxYearDays`. -/
theorem C04_weather_of_load {π : Type} (st : DState π) (cap i days t : Nat)
    (h : loadYear st.store cap (1900 + st.j) = some (i, days)) (ht : t < days) (ht2 : t < 366) :
    ∃ st', applyLoad st cap = some st' ∧ st'.g.getD t none = st.store.get i t ∧
      st.store.jarAt i = 1900 + st.j ∧ st'.jtag = days ∧ days = st.store.maxAt i := by
  obtain ⟨_, hj, hd⟩ := C04_loadYear_finds_year st.store cap (1900 + st.j) i days h
  exact ⟨_, applyLoad_eq h, (gLoad_getD _ _ _ _ _ ht2).trans (if_pos ht), hj, rfl, hd⟩

/-- `C04_weather_of_day` with the covering stated day by day: every simulated day has its line in the series. -/
theorem C04_weather_of_day_daywise {π : Type} (recs : List (Rec π)) (anjahr cap smon stg ndays : Nat)
    (hv : ∀ r ∈ recs, ValidRec r) (hg : GapFree recs)
    (hstart : ValidDate (anjahr - 1900) smon stg) (hn : 0 < ndays)
    (hend : masdat (anjahr - 1900) smon stg + ndays ≤ 72685)
    (hcov : ∀ k, k < ndays → ∃ r, RecordOfDay recs (masdat (anjahr - 1900) smon stg + k) r ∧ r.year < anjahr + cap) :
    ∃ days, runMulti recs anjahr cap (masdat (anjahr - 1900) smon stg) (ztdat (anjahr - 1900) smon stg) ndays = some days ∧
      days.map (·.zeit) = List.range' (masdat (anjahr - 1900) smon stg) ndays ∧
      ∀ d ∈ days, ∃ r, RecordOfDay recs d.zeit r ∧ d.val = some r.val ∧ r.year = 1900 + d.j ∧ r.doy = d.tagNum := by
  obtain ⟨ms, st, days, hread, hAl, hinit, hrun, hz, hall⟩ := multi_run_covered (fun ms => ms.store) (fun _ _ => ⟨rfl, rfl⟩)
    hv hg (isDay_of_date hstart) hn hend hcov
  refine ⟨days, by simp only [runMulti, hread, hinit]; exact hrun, hz, ?_⟩
  intro d hd
  obtain ⟨_, r, hr, e1, e2, c1, c2, hval⟩ := hall d hd
  exact ⟨r, hr, by rw [hval]; exact hAl.get hr.1 c1 c2, e1, e2⟩

/-- **Weather of the day, whole run, multi-year layouts** (`ReadWeatherCSV`, `ReadWeatherCZ`: the same
indexing statements, `readMulti`). For every series of lines with parsed, existing dates that are
consecutive calendar days (any first day — also before the start year — any last day, any number
of years beyond the allocated ones), every start date `smon`/`stg` of the start year `anjahr`
(`BEGINN` and `ITAG` are its day number and day of the year, as `DateConverter` returns them), and
every number of simulated days up to 31 December 2099: if the series has the line of the first and
the line of the last simulated day and the year of the last day is inside the `cap` allocated
years, then the run — readers, first `LoadYear`, and `ndays` passes of the day loop with the reload
at every year change — returns no error, the simulated days are `BEGINN`, `BEGINN + 1`, … and on
each of them the slot `TAG.Index` of the day arrays holds the payload of **the** line whose date is
`KalenderDate(ZEIT)` (unique: no other line of the series has that date), with
`1900 + J`/`TAG.Index + 1` the year and day of the year of that date. Induction over the days,
across year changes and leap years.

What each remaining hypothesis is needed for: DESIGN §6 C04. Here the payload is abstract (what the reader
puts into the slot); `C04_weather_of_day_normalised` is the same statement with the two in-place
normalisation passes between reading and loading. -/
theorem C04_weather_of_day {π : Type} (recs : List (Rec π)) (anjahr cap smon stg ndays : Nat) (r0 rL : Rec π)
    (hv : ∀ r ∈ recs, ValidRec r) (hg : GapFree recs)
    (hstart : ValidDate (anjahr - 1900) smon stg) (hn : 0 < ndays)
    (hend : masdat (anjahr - 1900) smon stg + ndays ≤ 72685)
    (h0 : RecordOfDay recs (masdat (anjahr - 1900) smon stg) r0)
    (hL : RecordOfDay recs (masdat (anjahr - 1900) smon stg + (ndays - 1)) rL) (hcap : rL.year < anjahr + cap) :
    ∃ days, runMulti recs anjahr cap (masdat (anjahr - 1900) smon stg) (ztdat (anjahr - 1900) smon stg) ndays = some days ∧
      days.map (·.zeit) = List.range' (masdat (anjahr - 1900) smon stg) ndays ∧
      ∀ d ∈ days, ∃ r, RecordOfDay recs d.zeit r ∧ d.val = some r.val ∧ r.year = 1900 + d.j ∧ r.doy = d.tagNum ∧
        ∀ r', RecordOfDay recs d.zeit r' → r' = r := by
  obtain ⟨days, hrun, hz, hall⟩ := C04_weather_of_day_daywise recs anjahr cap smon stg ndays hv hg hstart hn hend
    (daywise_of_endpoints hv hg (isDay_of_date hstart).range.1 hn hend h0 hL hcap)
  refine ⟨days, hrun, hz, ?_⟩
  intro d hd
  obtain ⟨r, hr, a, b, c⟩ := hall d hd
  exact ⟨r, hr, a, b, c, fun r' hr' => recordOfDay_unique hg hr hr'⟩

/-- **Weather of the day, whole run, one file per year** (`WetterK`, layout 0). Every year from the
start year to the year of the last simulated day has a year file whose lines are numbered 1, 2, …, n
(n ≤ days of that year; `vals y` are their payloads), the years before the last one are complete and
the last one reaches the last simulated day. Then the run — `WetterK` + `LoadYear` before the loop
and again at every year change — returns no error, the simulated days are `BEGINN`, `BEGINN + 1`, …
and each of them consumes line number `ztDat(KalenderDate(ZEIT))` of the file of the year of
`KalenderDate(ZEIT)`. Every start date, every number of days up to 31 December 2099. -/
theorem C04_weather_of_day_yearfiles {π : Type} (files : Nat → Option (List (Nat × π))) (vals : Nat → List π)
    (anjahr smon stg ndays yL monL tgL : Nat)
    (hstart : ValidDate (anjahr - 1900) smon stg) (hn : 0 < ndays)
    (hend : masdat (anjahr - 1900) smon stg + ndays ≤ 72685)
    (hlast : kalenderDate (masdat (anjahr - 1900) smon stg + (ndays - 1)) = some (yL, monL, tgL))
    (hfiles : ∀ y, anjahr ≤ y → y ≤ yL → files y = some (numberFrom 1 (vals y)) ∧ (vals y).length ≤ daysInYear y)
    (hfull : ∀ y, anjahr ≤ y → y < yL → (vals y).length = daysInYear y)
    (hreach : ztdat (yL - 1900) monL tgL ≤ (vals yL).length) :
    ∃ days, runPerYear files anjahr (masdat (anjahr - 1900) smon stg) (ztdat (anjahr - 1900) smon stg) ndays = some days ∧
      days.map (·.zeit) = List.range' (masdat (anjahr - 1900) smon stg) ndays ∧
      ∀ d ∈ days, ∃ mon tg, kalenderDate d.zeit = some (1900 + d.j, mon, tg) ∧ ztdat d.j mon tg = d.tagNum ∧
        ∃ h : d.tagNum - 1 < (vals (1900 + d.j)).length, d.val = some (vals (1900 + d.j))[d.tagNum - 1] := by
  obtain ⟨days, hrun, hz, hall⟩ := runPerYear_covered files vals (isDay_of_date hstart) hn hend
    (yearfiles_covered files vals (isDay_of_date hstart) hn hend hlast hfiles hfull hreach)
  refine ⟨days, hrun, hz, fun d hd => ?_⟩
  obtain ⟨hday, _, hval⟩ := hall d hd
  obtain ⟨mon, tg, _, hk, hzt⟩ := isDay_kalender hday
  exact ⟨mon, tg, by rw [Nat.add_comm]; exact hk, hzt, hval⟩

/-- **The two in-place passes, cell by cell** (`replaceMissingValues`, then `transformWeatherData`,
over the `yrz` year slots read). A cell `[y][i]` of a year slot in use ends with
`transformPure` (leap flag of `JAR[y]`, day of the year `i + 1`) of the *filled* cell, and the filled
cell is `fillPure` of the raw cell, of the **filled** previous neighbour and of the **raw** next
neighbour (the first pass runs front to back in place); the neighbours are the cells at `prevPos` /
`nextPos` (`C04_neighbours_mid_year`, `C04_prev_neighbour_year_start`,
`C04_neighbour_mean_at_year_end`); `JAR` and `MaxYearDays` are untouched. No cell is moved: the
normalised value stays in the slot of its date. -/
theorem C04_normalise_cell (nv : ℚ) (corr : List ℚ) (yrz : Nat) (s : Store (Day ℚ)) (y i : Nat)
    (hy : y < yrz) (hi : i < s.maxAt y) :
    cellAt (normalise nv corr yrz s) y i =
      normPure nv corr (daysInYear (s.jarAt y) == 366) i (cellAt s y i)
        (neighbours ((List.range yrz).map s.maxAt) yrz (filled nv yrz s) s y i) ∧
    (∀ k, (normalise nv corr yrz s).maxAt k = s.maxAt k ∧ (normalise nv corr yrz s).jarAt k = s.jarAt k) :=
  ⟨cellAt_of_get (normalise_get nv corr yrz s y i hy hi), normalise_maxAt_jarAt nv corr yrz s⟩

/-- **Normalisation only**: whatever the neighbours, the normalised value of a record `c` on day of
the year `i + 1` has precipitation = (missing → 0, else value) / 10 · factor of `corrMonth`, PAR =
(missing → 0, else global radiation) / 2, wind = max(wind, 0.5); temperature, saturation deficit and
sunshine duration that are present are consumed unchanged; a missing one with both neighbours
present becomes their mean. -/
theorem C04_normalisation_only (nv : ℚ) (corr : List ℚ) (leap : Bool) (i : Nat) (c : Day ℚ) (pn : Option (Day ℚ × Day ℚ)) :
    (normPure nv corr leap i c pn).reg = (if c.reg = nv then 0 else c.reg) / 10 * corr.getD (corrMonth (corrDoy leap (i + 1))) 0 ∧
    (normPure nv corr leap i c pn).radi = (if c.radi = nv then 0 else c.radi) / 2 ∧
    (normPure nv corr leap i c pn).win = (if c.win < 0.5 then 0.5 else c.win) ∧
    (c.tmp ≠ nv → (normPure nv corr leap i c pn).tmp = c.tmp) ∧
    (c.verd ≠ nv → (normPure nv corr leap i c pn).verd = c.verd) ∧
    (c.sund ≠ nv → (normPure nv corr leap i c pn).sund = c.sund) ∧
    (∀ p n, pn = some (p, n) → c.tmp = nv → p.tmp ≠ nv → n.tmp ≠ nv → (normPure nv corr leap i c pn).tmp = (p.tmp + n.tmp) / 2) ∧
    (∀ p n, pn = some (p, n) → c.verd = nv → p.verd ≠ nv → n.verd ≠ nv → (normPure nv corr leap i c pn).verd = (p.verd + n.verd) / 2) := by
  obtain ⟨a1, a2, a3⟩ := normPure_own_value nv corr leap i c pn
  obtain ⟨b1, b2, b3⟩ := normPure_present nv corr leap i c pn
  refine ⟨?_, ?_, ?_, b1, b2, b3, ?_, ?_⟩
  · rw [a1]; simp [regenT, fillZero]
  · rw [a2]; simp [parT, fillZero]
  · rw [a3]; rfl
  · intro p n e; subst e; exact (normPure_mean nv corr leap i c p n).1
  · intro p n e; subst e; exact (normPure_mean nv corr leap i c p n).2.1

/-- **Weather of the day = the normalised record of its date — whole run, multi-year layouts.**
Same quantifiers and hypotheses as `C04_weather_of_day`, with the two normalisation passes between
reading and loading in place (`runMultiN`): the run returns no error, and on every simulated day
the slot `TAG.Index` holds `normPure` of **the** line whose date is `KalenderDate(ZEIT)` — i.e.
(`C04_normalisation_only`) its precipitation / 10 times the factor **of the month of that date**
(leap years included), half its global radiation, its wind floored at 0.5 m/s, its temperature,
saturation deficit and sunshine duration where present, and otherwise the value the first pass
derives from the neighbour cells `pn`. -/
theorem C04_weather_of_day_normalised (nv : ℚ) (corr : List ℚ) (recs : List (Rec (Day ℚ)))
    (anjahr cap smon stg ndays : Nat) (r0 rL : Rec (Day ℚ))
    (hv : ∀ r ∈ recs, ValidRec r) (hg : GapFree recs)
    (hstart : ValidDate (anjahr - 1900) smon stg) (hn : 0 < ndays)
    (hend : masdat (anjahr - 1900) smon stg + ndays ≤ 72685)
    (h0 : RecordOfDay recs (masdat (anjahr - 1900) smon stg) r0)
    (hL : RecordOfDay recs (masdat (anjahr - 1900) smon stg + (ndays - 1)) rL) (hcap : rL.year < anjahr + cap) :
    ∃ days, runMultiN nv corr recs anjahr cap (masdat (anjahr - 1900) smon stg) (ztdat (anjahr - 1900) smon stg) ndays = some days ∧
      days.map (·.zeit) = List.range' (masdat (anjahr - 1900) smon stg) ndays ∧
      ∀ d ∈ days, ∃ r mon tg pn, RecordOfDay recs d.zeit r ∧ (∀ r', RecordOfDay recs d.zeit r' → r' = r) ∧
        kalenderDate d.zeit = some (r.year, mon, tg) ∧ r.year = 1900 + d.j ∧ r.doy = d.tagNum ∧
        d.val = some (normPure nv corr (daysInYear r.year == 366) (r.doy - 1) r.val pn) ∧
        (normPure nv corr (daysInYear r.year == 366) (r.doy - 1) r.val pn).reg =
          (if r.val.reg = nv then 0 else r.val.reg) / 10 * corr.getD (mon - 1) 0 := by
  have hcov := daywise_of_endpoints hv hg (isDay_of_date hstart).range.1 hn hend h0 hL hcap
  -- the day loop runs on the normalised arrays, whose `JAR` / `MaxYearDays` are those of the arrays as read
  obtain ⟨ms, st, days, hread, hAl, hinit, hrun, hz, hall⟩ := multi_run_covered (fun ms => normalise nv corr ms.yrz ms.store)
    (fun ms => normalise_maxAt_jarAt nv corr ms.yrz ms.store) hv hg (isDay_of_date hstart) hn hend hcov
  refine ⟨days, by simp only [runMultiN, hread, hinit]; exact hrun, hz, ?_⟩
  intro d hd
  obtain ⟨hday, r, hr, e1, e2, c1, c2, hval⟩ := hall d hd
  obtain ⟨hm, mon, tg, hk, -⟩ := id hr
  -- the slot of the line is one the passes rewrite; `pn` are the neighbour cells `normalise_get` names
  have hi : r.doy - 1 < ms.store.maxAt (r.year - anjahr) :=
    Nat.sub_one_lt_of_le (hv r hm).2.1 (hAl.doy_le_maxAt hm c1 c2)
  have hnorm := hval.trans (normalise_get nv corr ms.yrz ms.store _ _ (hAl.slot_lt hm c1 c2) hi)
  rw [cellAt_of_get (hAl.get hm c1 c2), hAl.jarAt hm c1 c2] at hnorm
  rw [← e2] at hday
  -- the monthly factor is that of the month of the calendar date
  exact ⟨r, mon, tg, _, hr, fun r' hr' => recordOfDay_unique hg hr hr', hk, e1, e2, hnorm,
    by rw [(C04_normalisation_only nv corr _ _ r.val _).1, corrMonth_of_isDay hday hk]⟩

/-- **Weather of the day = the normalised record of its date — whole run, one file per year** (`WetterK` runs both passes on the year just read): same hypotheses as
`C04_weather_of_day_yearfiles`; every simulated day consumes `normPure` of line number
`ztDat(KalenderDate(ZEIT))` of the file of that year, with the precipitation factor of the month of
the date. -/
theorem C04_weather_of_day_normalised_yearfiles (nv : ℚ) (corr : List ℚ) (files : Nat → Option (List (Nat × Day ℚ)))
    (vals : Nat → List (Day ℚ)) (anjahr smon stg ndays yL monL tgL : Nat)
    (hstart : ValidDate (anjahr - 1900) smon stg) (hn : 0 < ndays)
    (hend : masdat (anjahr - 1900) smon stg + ndays ≤ 72685)
    (hlast : kalenderDate (masdat (anjahr - 1900) smon stg + (ndays - 1)) = some (yL, monL, tgL))
    (hfiles : ∀ y, anjahr ≤ y → y ≤ yL → files y = some (numberFrom 1 (vals y)) ∧ (vals y).length ≤ daysInYear y)
    (hfull : ∀ y, anjahr ≤ y → y < yL → (vals y).length = daysInYear y)
    (hreach : ztdat (yL - 1900) monL tgL ≤ (vals yL).length) :
    ∃ days, runPerYearN nv corr files anjahr (masdat (anjahr - 1900) smon stg) (ztdat (anjahr - 1900) smon stg) ndays = some days ∧
      days.map (·.zeit) = List.range' (masdat (anjahr - 1900) smon stg) ndays ∧
      ∀ d ∈ days, ∃ mon tg pn, kalenderDate d.zeit = some (1900 + d.j, mon, tg) ∧ ztdat d.j mon tg = d.tagNum ∧
        ∃ h : d.tagNum - 1 < (vals (1900 + d.j)).length,
          d.val = some (normPure nv corr (daysInYear (1900 + d.j) == 366) (d.tagNum - 1) (vals (1900 + d.j))[d.tagNum - 1] pn) ∧
          corrMonth (corrDoy (daysInYear (1900 + d.j) == 366) (d.tagNum - 1 + 1)) = mon - 1 := by
  obtain ⟨days, hrun, hz, hall⟩ := runPerYear_covered (fun y => (files y).map (normLines nv corr y))
    (fun y => normVals nv corr y (vals y)) (isDay_of_date hstart) hn hend
    (covered_normLines nv corr files vals
      (yearfiles_covered files vals (isDay_of_date hstart) hn hend hlast hfiles hfull hreach))
  refine ⟨days, hrun, hz, ?_⟩
  intro d hd
  obtain ⟨hday, hlen, hlt, hval⟩ := hall d hd
  simp only [normVals_length] at hlen hlt
  obtain ⟨mon, tg, _, hk, hzt⟩ := isDay_kalender hday
  rw [Nat.add_comm] at hk
  obtain ⟨pn, hpn⟩ := normVals_getElem nv corr (1900 + d.j) (vals (1900 + d.j)) hlen (d.tagNum - 1) hlt
  exact ⟨mon, tg, pn, hk, hzt, hlt, by rw [hval, hpn], corrMonth_of_isDay hday hk⟩

/-- Slots at or above the loaded year length keep what an earlier year left there (the copy loop of
`LoadYear` stops at `MaxYearDays`); a run never consumes them: it ends at the latest when the day
counter would pass `JTAG` of an incomplete year (`C04_short_year_is_error`). -/
theorem C04_load_keeps_tail {π : Type} (st : DState π) (cap i days t : Nat)
    (h : loadYear st.store cap (1900 + st.j) = some (i, days)) (ht : days ≤ t) (ht2 : t < 366) :
    ∃ st', applyLoad st cap = some st' ∧ st'.g.getD t none = st.g.getD t none :=
  ⟨_, applyLoad_eq h, (gLoad_getD _ _ _ _ _ ht2).trans (if_neg (by omega))⟩

/-- **A year that was not loaded ends the run** (multi-year layouts): when the day counter leaves a
year and no slot holds the next one, the run returns an error — whatever else the state is. -/
theorem C04_missing_year_is_error {π : Type} (cap n : Nat) (st : DState π)
    (hroll : st.tagNum + 1 > st.jtag)
    (hmiss : loadYear st.store cap (1900 + (st.j + 1)) = none) :
    runDays (.multi cap) (n + 1) st = none :=
  runDays_roll_none (.multi cap) n st hroll (Or.inr (applyLoad_eq_none hmiss))

/-- The same at the start of the run: the start year must have been loaded. -/
theorem C04_missing_start_year_is_error {π : Type} (recs : List (Rec π)) (anjahr cap beginn itag ndays : Nat)
    (ms : MState π) (hr : readMulti anjahr cap recs = some ms)
    (hmiss : loadYear ms.store cap (1900 + (anjahr - 1900)) = none) :
    runMulti recs anjahr cap beginn itag ndays = none := by
  simp [runMulti, hr, initState, reload, applyLoad, hmiss]

/-- **A missing year file ends the run** (layout 0). -/
theorem C04_missing_year_file_is_error {π : Type} (files : Nat → Option (List (Nat × π))) (n : Nat)
    (st : DState π) (hroll : st.tagNum + 1 > st.jtag) (hf : files (1900 + (st.j + 1)) = none) :
    runDays (.perYear files) (n + 1) st = none :=
  runDays_roll_none (.perYear files) n st hroll (Or.inr (by simp [reload, hf, readYearFile]))

/-- Every year file `WetterK` rejects (gap, first line not day 1, no data line) ends the run as well. -/
theorem C04_defective_year_file_is_error {π : Type} (files : Nat → Option (List (Nat × π)))
    (st : DState π) (h : (readYearFile (1900 + st.j) st.store (files (1900 + st.j))).2 ≠ YStatus.ok) :
    reload (.perYear files) st = none := by
  simp [reload, h]

/-- **A year that ends early ends the run**: the day counter never passes the last loaded day of a
year whose weather stops before 31 December (short last year, series ending before the end date,
days missing before a 1 January in a year file). -/
theorem C04_short_year_is_error {π : Type} (src : Source π) (n : Nat) (st : DState π)
    (hroll : st.tagNum + 1 > st.jtag) (hshort : st.jtag < daysInYear (1900 + st.j)) :
    runDays src (n + 1) st = none :=
  runDays_roll_none src n st hroll (Or.inl hshort)

/-- **A leap year that lacks only its last day is an error — at both places that decide "year
complete".** The day counts are exact (366, not "at least 365"): (1) a multi-year reader whose year
slot in use holds a leap year up to day 365 returns its error at the following 1 January; (2) the
day loop, standing on day 365 of a leap year whose loaded weather has 365 days, ends the run instead
of entering the next year one day early. Concrete instance: 2000. -/
theorem C04_leap_year_short_by_one_is_error {π : Type} :
    (∀ (startyear cap : Nat) (s : MState π) (r : Rec π) (rest : List (Rec π)) (ly : Nat),
      s.first = false → startyear ≤ r.year → 1 ≤ r.year → r.doy = 1 → daysInYear ly = 366 →
      s.store.jarAt (s.yrz - 1) = ly → s.store.maxAt (s.yrz - 1) = 365 →
      readMultiFrom startyear cap s (r :: rest) = none) ∧
    (∀ (src : Source π) (n : Nat) (st : DState π),
      daysInYear (1900 + st.j) = 366 → st.jtag = 365 → st.tagNum = 365 → runDays src (n + 1) st = none) ∧
    daysInYear 2000 = 366 := by
  refine ⟨?_, ?_, by decide⟩
  · intro startyear cap s r rest ly hs hy hy1 h1 hl hj hm
    exact C04_reader_rejects_gap_before_jan1 startyear cap s hs r rest hy hy1 h1 ly 365 hj hm
      (Or.inr (by omega))
  · intro src n st hl hj ht
    exact C04_short_year_is_error src n st (by omega) (by omega)

/-- **Still violated: the series starts after the first simulated day, inside the start year**
(multi-year layouts). The first-record fail-safe puts the first record into the slot of its own
date and nothing checks the slots before it. Witness: the file starts on 3 January 1981, the run
on 1 January 1981: no error, 1 and 2 January consume never-written slots (zero values). -/
theorem C04_uncovered_start_same_year_fails_at :
    ∃ days, runMulti [⟨1981, 3, 1, false⟩, ⟨1981, 4, 2, false⟩, ⟨1981, 5, 3, false⟩] 1981 1 (masdat 81 1 1) 1 3 = some days ∧
      days.map (fun d => (d.zeit - masdat 81 1 1, d.j, d.tagNum, d.val)) =
        [(0, 81, 1, none), (1, 81, 2, none), (2, 81, 3, some 1)] := by
  refine ⟨_, rfl, ?_⟩; decide

/-- What holds in that situation: every record that *is* in the file sits in the slot of its date
(`C04_reader_alignment_csv` does not need the first record to be 1 January), so from the first
covered day on the run is driven by the right records; only the days before it are not refused. -/
theorem C04_uncovered_start_same_year_partial {π : Type} (startyear cap : Nat) (f : Rec π)
    (rest : List (Rec π)) (hv : ∀ r ∈ f :: rest, ValidRec r) (hg : GapFree (f :: rest))
    (hf : startyear ≤ f.year) (hc : 1 ≤ cap) :
    ∃ ms, readCSV startyear cap (f :: rest) = some ms ∧ ms.store.get 0 (f.doy - 1) = some f.val := by
  obtain ⟨ms, hr, hA⟩ := readMulti_alignedStore startyear cap (f :: rest) hv hg
  rw [show firstYear startyear (f :: rest) = f.year from if_neg (by omega)] at hA
  have := hA.get (List.mem_cons_self ..) hf (by omega)
  rw [Nat.sub_self] at this
  exact ⟨ms, hr, this⟩

/-- Monthly precipitation factor: the factor applied on a date is the factor of the month of that
date, in leap years too (29 February gets February's factor, 31 December December's). -/
theorem C04_preco_month (yr mon tg : Nat) (h : ValidDate yr mon tg) :
    corrMonth (corrDoy (daysInYear (1900 + yr) == 366) (ztdat yr mon tg)) = mon - 1 :=
  preco_month yr mon tg h

/-- Neighbours used for a missing optional value, inside a year: the adjacent days. -/
theorem C04_neighbours_mid_year (maxd : List Nat) (yrz y index : Nat) (h0 : 0 < index)
    (h1 : index + 1 < maxd.getD y 0) :
    prevPos maxd y index = some (y, index - 1) ∧ nextPos maxd yrz y index = some (y, index + 1) := by
  have : ¬ index = 0 := by omega
  have h2 : ¬ index + 1 ≥ maxd.getD y 0 := by omega
  constructor
  · unfold prevPos; rw [if_neg this]
  · unfold nextPos; rw [if_neg h2]

/-- Previous neighbour of 1 January: 31 December of the previous loaded year. -/
theorem C04_prev_neighbour_year_start (maxd : List Nat) (y : Nat) (hy : 0 < y) (hp : 0 < maxd.getD (y - 1) 0) :
    prevPos maxd y 0 = some (y - 1, maxd.getD (y - 1) 0 - 1) := by
  have : ¬ maxd.getD (y - 1) 0 = 0 := by omega
  unfold prevPos; rw [if_pos rfl, if_pos hy, if_neg this]

/-- Next neighbour of the last day of a year: 1 January (index 0) of the next loaded year. -/
theorem C04_neighbour_mean_at_year_end (maxd : List Nat) (yrz y index : Nat)
    (hlast : index + 1 ≥ maxd.getD y 0) (hnext : y + 1 < yrz) :
    nextPos maxd yrz y index = some (y + 1, 0) := by
  have : ¬ y + 1 ≥ yrz := by omega
  unfold nextPos; rw [if_pos hlast, if_neg this]

/-- Partial for one file per year (layout 0) and for the last loaded year: the day after the last
day is not in the arrays that are filled, there is no next neighbour and the missing value of the
last day becomes 0, not a mean (what is missing: the adjacent day lives in another file). -/
theorem C04_year_end_neighbour_last_year_partial (maxd : List Nat) (yrz y index : Nat)
    (hlast : index + 1 ≥ maxd.getD y 0) (hnext : y + 1 ≥ yrz) : nextPos maxd yrz y index = none := by
  unfold nextPos; rw [if_pos hlast, if_pos hnext]

/-- A present value is never changed and an isolated missing one becomes the mean of the two
neighbour values handed in (here over `Int`, where the quotient truncates; over ℚ: `normPure_mean`). -/
theorem C04_fill_mean (nv v p n : Int) :
    (v ≠ nv → fillMean nv v p n = v) ∧ (v = nv → p ≠ nv → n ≠ nv → fillMean nv v p n = (p + n) / 2) :=
  ⟨fillMean_of_ne p n, fillMean_of_eq⟩

-- the lock-step hypotheses are met by a state in mid-January 1981 …
example : LockPre ({ zeit := masdat 81 1 1 + 10, tagNum := 10, j := 81, jtag := 365, g := [], store := {} } : DState Nat) := by
  unfold LockPre; decide
-- … and a successful run exists (three days in January without a year change)
example : (runDays (.multi 0) 3 ({ zeit := masdat 81 1 1 + 10, tagNum := 10, j := 81, jtag := 365, g := [], store := {} } : DState Nat)).map
    (fun ds => ds.map (fun d => (d.j, d.tagNum, d.jtag))) = some [(81, 11, 365), (81, 12, 365), (81, 13, 365)] := by decide
-- StartYear 1980, first simulated day 1 January 1981, weather of both years present: error
example : kalenderDate (masdat 81 1 1) = some (1981, 1, 1) := by decide
example : (runMulti ([⟨1980, 366, 1, false⟩, ⟨1981, 1, 2, false⟩, ⟨1981, 2, 3, false⟩] : List (Rec Nat)) 1980 2 (masdat 81 1 1) 1 2).isNone = true := by decide
-- a gap-free series across a year end that starts before the start year
example : GapFree ([⟨1980, 366, 1, false⟩, ⟨1981, 1, 2, false⟩, ⟨1981, 2, 3, false⟩] : List (Rec Nat)) ∧
    ∀ r ∈ ([⟨1980, 366, 1, false⟩, ⟨1981, 1, 2, false⟩, ⟨1981, 2, 3, false⟩] : List (Rec Nat)), ValidRec r := by decide
example : firstYear 1981 ([⟨1980, 366, 1, false⟩, ⟨1981, 1, 2, false⟩, ⟨1981, 2, 3, false⟩] : List (Rec Nat)) = 1981 := by decide
-- a gap inside a year is rejected
example : (readCSV 1981 1 ([⟨1981, 1, 1, false⟩, ⟨1981, 3, 2, false⟩] : List (Rec Nat))).isNone = true := by decide
-- a line whose date did not parse between 1 and 3 January: error (it is never skipped, 3 January is not accepted in its place)
example : (readCSV 1981 1 ([⟨1981, 1, 1, false⟩, ⟨1, 1, 2, true⟩, ⟨1981, 3, 3, false⟩] : List (Rec Nat))).isNone = true := by decide
-- the year file of 1981 starting at line 365: gap; behind line 364, the line numbered 366: beyond the end of the year
example : (readYearFile 1981 ({} : Store Nat) (some (numberFrom 365 [7, 8]))).2 = YStatus.gap := by decide
example : (readYearLines 1981 ({} : Store Nat) 364 (numberFrom 365 [7, 8])).2 = YStatus.beyond := by decide
-- 2000 without its 31 December: 30 December 2000 (day 365) followed by 1 January 2001 is rejected,
-- and so is a run standing on day 365 of 2000 with JTAG = 365
example : (readCSV 2000 2 ([⟨2000, 364, 1, false⟩, ⟨2000, 365, 2, false⟩, ⟨2001, 1, 3, false⟩] : List (Rec Nat))).isNone = true := by decide
example : (runDays (.multi 0) 1 ({ zeit := masdat 100 12 30, tagNum := 365, j := 100, jtag := 365, g := [], store := {} } : DState Nat)).isNone = true := by decide
-- regression witness F3b: 30 December followed by 1 January is rejected
example : (readCSV 1981 2 ([⟨1981, 363, 1, false⟩, ⟨1981, 364, 2, false⟩, ⟨1982, 1, 3, false⟩, ⟨1982, 2, 4, false⟩] : List (Rec Nat))).isNone = true := by decide
-- regression witness F3: file 1–3 January 1981, run 1–5 January 1981 ends with an error, in every layout
example : (runMulti ([⟨1981, 1, 1, false⟩, ⟨1981, 2, 2, false⟩, ⟨1981, 3, 3, false⟩] : List (Rec Nat)) 1981 1 (masdat 81 1 1) 1 5).isNone = true := by decide
example : (runPerYear (fun y => if y = 1981 then some [(1, 1), (2, 2), (3, 3)] else none) 1981 (masdat 81 1 1) 1 5).isNone = true := by decide
-- regression witness: the file starts a year after the run does
example : (runMulti ([⟨1982, 1, 1, false⟩, ⟨1982, 2, 2, false⟩, ⟨1982, 3, 3, false⟩] : List (Rec Nat)) 1981 2 (masdat 81 1 1) 1 2).isNone = true := by decide
-- regression witness F4: sunshine missing on the last day of the first loaded year (2 days); adjacent
-- days 2 and 4: the mean 3 is used
example : ((replaceMissing (α := Int) (-99) [2, 3] 2
      [[⟨0, 0, 2, 0, 0, 0⟩, ⟨0, 0, -99, 0, 0, 0⟩], [⟨0, 0, 4, 0, 0, 0⟩, ⟨0, 0, 10, 0, 0, 0⟩, ⟨0, 0, 1, 0, 0, 0⟩]]).map
    (fun row => row.map (·.sund))) = [[2, 3], [4, 10, 1]] := by decide
-- regression witness F19: 29 February 2000 gets February's factor (index 1), 31 March 2000 March's
example : corrMonth (corrDoy true (ztdat 100 2 29)) = 1 ∧ corrMonth (corrDoy true (ztdat 100 3 31)) = 2 := by decide

/-! ### non-vacuity of `C04_weather_of_day`: a series across the leap year 2000 that starts before the start year -/

/-- 30 December 1999 … 2 January 2001 (370 lines), payload = line number -/
def leapSeries : List (Rec Nat) :=
  (List.range 370).map fun i =>
    if i < 2 then ⟨1999, 364 + i, i + 1, false⟩ else if i < 368 then ⟨2000, i - 1, i + 1, false⟩ else ⟨2001, i - 367, i + 1, false⟩

-- the hypotheses of `C04_weather_of_day` hold for StartYear 2000, start date 1 January 2000, 368 days (to 2 January 2001), 2 year slots
example : (∀ r ∈ leapSeries, ValidRec r) ∧ GapFree leapSeries := by decide +kernel
example : ValidDate (2000 - 1900) 1 1 ∧ masdat (2000 - 1900) 1 1 + 368 ≤ 72685 := by unfold ValidDate; decide
example : RecordOfDay leapSeries (masdat (2000 - 1900) 1 1) ⟨2000, 1, 3, false⟩ :=
  ⟨by decide +kernel, 1, 1, by decide +kernel, by decide +kernel⟩
example : RecordOfDay leapSeries (masdat (2000 - 1900) 1 1 + (368 - 1)) ⟨2001, 2, 370, false⟩ :=
  ⟨by decide +kernel, 1, 2, by decide +kernel, by decide +kernel⟩
-- … and the run it speaks about, evaluated: 28/29 February, 1 March, 31 December 2000, 1/2 January 2001 consume lines 61, 62, 63, 368, 369, 370
example : (runMulti leapSeries 2000 2 (masdat 100 1 1) 1 368).map
    (fun ds => [58, 59, 60, 365, 366, 367].map fun k => (ds.getD k ⟨0, 0, 0, 0, none⟩).val) =
    some [some 61, some 62, some 63, some 368, some 369, some 370] := by decide +kernel
-- layout 0: the year files of 2000 (366 lines) and 2001 (2 lines), run 31 December 2000 … 2 January 2001
example : ∀ y, 2000 ≤ y → y ≤ 2001 →
    (fun y => if y = 2000 then some (numberFrom 1 (List.range 366)) else if y = 2001 then some (numberFrom 1 [7, 8]) else none) y
      = some (numberFrom 1 ((fun y => if y = 2000 then List.range 366 else [7, 8]) y)) ∧
    ((fun y => if y = 2000 then List.range 366 else [7, 8]) y).length ≤ daysInYear y := by
  intro y h1 h2
  have : y = 2000 ∨ y = 2001 := by omega
  rcases this with rfl | rfl <;> decide +kernel
example : kalenderDate (masdat (2000 - 1900) 12 31 + (3 - 1)) = some (2001, 1, 2) ∧ ztdat (2001 - 1900) 1 2 ≤ ([7, 8] : List Nat).length := by decide +kernel

/-! ### non-vacuity of `C04_weather_of_day_normalised`: 31 December 1999 … 2 January 2000 with missing values -/

/-- payload (tmp, verd, sund, radi, reg, win); −99.9 = missing -/
def wxD : List (Rec (Day ℚ)) :=
  [⟨1999, 365, ⟨1, -99.9, 3, 10, 4, 0.2⟩, false⟩, ⟨2000, 1, ⟨2, 5, -99.9, 12, 8, 3⟩, false⟩,
   ⟨2000, 2, ⟨-99.9, 6, 4, -99.9, 0, 1⟩, false⟩]

example : (∀ r ∈ wxD, ValidRec r) ∧ GapFree wxD := by decide
example : RecordOfDay wxD (masdat (2000 - 1900) 1 1) ⟨2000, 1, ⟨2, 5, -99.9, 12, 8, 3⟩, false⟩ ∧
    RecordOfDay wxD (masdat (2000 - 1900) 1 1 + (2 - 1)) ⟨2000, 2, ⟨-99.9, 6, 4, -99.9, 0, 1⟩, false⟩ :=
  ⟨⟨by simp [wxD], 1, 1, by decide +kernel, by decide +kernel⟩, ⟨by simp [wxD], 1, 2, by decide +kernel, by decide +kernel⟩⟩
-- what 1 January 2000 consumes: 8 mm · January's factor 1.1 / 10, PAR 6, wind 3, temperature 2, saturation deficit 5
example : (normPure (-99.9 : ℚ) [1.1, 1, 1, 1, 1, 1, 1, 1, 1, 1, 1, 1] true 0 ⟨2, 5, -99.9, 12, 8, 3⟩ none).reg = 0.88 ∧
    (normPure (-99.9 : ℚ) [1.1, 1, 1, 1, 1, 1, 1, 1, 1, 1, 1, 1] true 0 ⟨2, 5, -99.9, 12, 8, 3⟩ none).radi = 6 := by
  decide +kernel

/-- **An optional value that drives a day is the value of that date's record or zero** (layout 0): the gated run differs
from `runPerYearN` (for which `C04_weather_of_day_normalised` says whose record a day sees) only in `verd` / `sund`, and there
only by replacing the value by 0 — never by the value of another day. The flags are those of the files read so far
(`seenOptional`): once a file had a value the column is copied in every later year (also a year whose file has none). -/
theorem C04_optional_columns_of_the_date_or_zero (nv : ℚ) (corr : List ℚ) (files : Nat → Option (List (Nat × Day ℚ)))
    (anjahr beginn itag ndays : Nat) (ds : List (DayOut (Day ℚ))) (h : runPerYearL nv corr files anjahr beginn itag ndays = some ds) :
    ∃ ds0, runPerYearN nv corr files anjahr beginn itag ndays = some ds0 ∧ ds.length = ds0.length ∧
      ∀ i (hi : i < ds.length) (hi0 : i < ds0.length), (ds[i]).zeit = (ds0[i]).zeit ∧ (ds[i]).tagNum = (ds0[i]).tagNum ∧ (ds[i]).j = (ds0[i]).j ∧
        ∀ v, (ds[i]).val = some v → ∃ v0, (ds0[i]).val = some v0 ∧ v.tmp = v0.tmp ∧ v.radi = v0.radi ∧ v.reg = v0.reg ∧ v.win = v0.win ∧
          (v.verd = v0.verd ∨ v.verd = 0) ∧ (v.sund = v0.sund ∨ v.sund = 0) := by
  obtain ⟨ds0, h0, rfl⟩ := Option.map_eq_some_iff.mp h
  refine ⟨ds0, h0, by simp, fun i hi hi0 => ?_⟩
  simp only [List.getElem_map]
  refine ⟨trivial, trivial, trivial, fun v hv => ?_⟩
  obtain ⟨v0, hv0, rfl⟩ := Option.map_eq_some_iff.mp hv
  refine ⟨v0, hv0, rfl, rfl, rfl, rfl, ?_, ?_⟩ <;> (unfold loadOptional; dsimp only; split <;> simp)

/-- a flag, once up, stays up: a later year without a value of the column is still copied -/
theorem C04_optional_flag_sticky (nv : ℚ) (files : Nat → Option (List (Nat × Day ℚ))) (anjahr y : Nat) (hy : anjahr ≤ y) :
    ((seenOptional nv files anjahr y).1 = true → (seenOptional nv files anjahr (y + 1)).1 = true) ∧
    ((seenOptional nv files anjahr y).2 = true → (seenOptional nv files anjahr (y + 1)).2 = true) := by
  unfold seenOptional
  have hr : y + 1 + 1 - anjahr = (y + 1 - anjahr) + 1 := by omega
  rw [hr, List.range_succ, List.map_append, List.foldl_append]
  simp only [List.map_cons, List.map_nil, List.foldl_cons, List.foldl_nil]
  split
  · exact ⟨id, id⟩
  · exact ⟨fun h => by simp [h], fun h => by simp [h]⟩

end Hermes.Weather
