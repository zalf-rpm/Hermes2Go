/-
C03 — Results are deterministic and independent of scheduling (DESIGN §6 C03).
Models: HermesModel/Dispatch.lean — the dispatcher of src/hermes2go/hermes_main.go:192-263 as a nondeterministic
transition system over a run *function*; `FilePool.Get` of hermes/path.go:198-233 over an immutable file system.

Not provable in Lean, a hypothesis (`runs_share_only_pool`): a run is a function `Cfg.run` of its batch line and the
immutable file system.  It is discharged by the regenerated concurrency facts
(HermesModel/Generated/ConcurrencyFacts.lean against harness/cmd/check/c03_expect.go) and observed at run time
(byte-identical result files, race detector).  Data-race freedom under the Go memory model and the scheduler's real
interleavings are observed only.
-/
import HermesProofs.Dispatch
import HermesProofs.FilePool

namespace Hermes.FilePool

variable {Path Content : Type} [DecidableEq Path]

/-- For every sequence of `Get` calls (= every interleaving of the calls of all
runs of the session) and every prior cache state satisfying the cache invariant (cold, warm, or
after `Close`), every `Get p` returns `fs p`, and the invariant is preserved. -/
theorem C03_pool_transparent (fs : Path → Content) (pool : Pool Path Content) (h : Inv fs pool)
    (calls : List (Nat × Path)) :
    (getAll fs pool calls).2 = calls.map (fun x => (x.1, fs x.2)) ∧ Inv fs (getAll fs pool calls).1 := by
  induction calls generalizing pool with
  | nil => exact ⟨rfl, h⟩
  | cons x rest ih =>
    obtain ⟨r, p⟩ := x
    have hg := get_spec fs pool p h
    have := ih (get fs pool p).1 hg.2
    simp only [getAll, List.map_cons]
    exact ⟨by rw [this.1, hg.1], this.2⟩

/-- What one run reads through the pool does not depend on the other runs' calls, on their
interleaving with its own, or on what earlier runs of the session left in the cache: it equals what
the run reads alone from a cold pool. -/
theorem C03_pool_interleaving_invisible (fs : Path → Content) (pool : Pool Path Content)
    (h : Inv fs pool) (calls : List (Nat × Path)) (r : Nat) :
    view r (getAll fs pool calls).2 =
      view r (getAll fs ⟨none⟩ ((callsOf r calls).map fun p => (r, p))).2 := by
  rw [(C03_pool_transparent fs pool h calls).1, (C03_pool_transparent fs ⟨none⟩ (inv_empty fs) _).1, view_map, view_map,
    callsOf_tag]

/-- The cold pool and the closed pool satisfy the cache invariant. -/
theorem C03_pool_cold_and_closed_ok (fs : Path → Content) (pool : Pool Path Content) :
    Inv fs (⟨none⟩ : Pool Path Content) ∧ Inv fs (close pool) :=
  ⟨inv_empty fs, inv_close fs pool⟩

example : (getAll (fun p : Nat => p * 10) ⟨some [(2, 20)]⟩ [(0, 1), (1, 2), (0, 1), (1, 3)]).2
    = [(0, 10), (1, 20), (0, 10), (1, 30)] := by decide

end Hermes.FilePool

namespace Hermes.Dispatch

variable {Line Result : Type}

/-- In every reachable state in which not all results have been collected
some transition is enabled (concurrency ≥ 1, no selected line ends in log.Fatal/panic). The run's
two sends on the unbuffered channels are always eventually received: the dispatcher is in one of
its `select` statements whenever all slots are taken or no line is left. -/
theorem C03_dispatch_no_deadlock (M : Cfg Line Result) (sel : List (Nat × Line))
    (hc : 1 ≤ M.conc) (hok : NoFatal M sel) (n : Nat) (s : State Line Result)
    (he : Exec M (init sel) n s) (hnf : ¬ Final s) : ∃ s', Step M s s' :=
  progress hc hok (exec_inv hok he (inv_init M sel)) hnf

/-- Every maximal execution ends with the multiset of (line id, result) being that of the selected
lines under the run function — whatever the interleaving. -/
theorem C03_dispatch_maximal_execution_result (M : Cfg Line Result) (sel : List (Nat × Line))
    (hc : 1 ≤ M.conc) (hok : NoFatal M sel) (n : Nat) (s : State Line Result)
    (he : Exec M (init sel) n s) (hst : Stuck M s) :
    Final s ∧ List.Perm (s.finished.map finTag) (sel.map (lineTag M)) :=
  (maximal hc hok he hst).2

/-- Two maximal executions — with different concurrency levels
(both ≥ 1), different orders of the same lines and different interleavings — end with the same
multiset of (line id, result). -/
theorem C03_dispatch_schedule_independent (M₁ M₂ : Cfg Line Result)
    (hrun : M₁.run = M₂.run) (sel₁ sel₂ : List (Nat × Line)) (hperm : List.Perm sel₁ sel₂)
    (hc₁ : 1 ≤ M₁.conc) (hc₂ : 1 ≤ M₂.conc) (hok : NoFatal M₁ sel₁)
    (n₁ n₂ : Nat) (s₁ s₂ : State Line Result)
    (he₁ : Exec M₁ (init sel₁) n₁ s₁) (hst₁ : Stuck M₁ s₁)
    (he₂ : Exec M₂ (init sel₂) n₂ s₂) (hst₂ : Stuck M₂ s₂) :
    List.Perm s₁.finished s₂.finished := by
  have hok₂ : NoFatal M₂ sel₂ := by
    intro p hp
    have := hok p ((hperm.mem_iff).mpr hp)
    rw [hrun] at this; exact this
  have h₁ := (C03_dispatch_maximal_execution_result M₁ sel₁ hc₁ hok n₁ s₁ he₁ hst₁).2
  have h₂ := (C03_dispatch_maximal_execution_result M₂ sel₂ hc₂ hok₂ n₂ s₂ he₂ hst₂).2
  have hl : lineTag M₁ = lineTag M₂ := by funext p; simp [lineTag, hrun]
  have hm : List.Perm (sel₁.map (lineTag M₁)) (sel₂.map (lineTag M₂)) := by
    rw [hl]; exact hperm.map _
  have : List.Perm (s₁.finished.map finTag) (s₂.finished.map finTag) := h₁.trans (hm.trans h₂.symm)
  exact perm_of_perm_finTag this

/-- Each selected line is finished exactly once: the finished ids are a permutation of the
selected ids (which are pairwise distinct for `selectLines`: `C11_selected_ids_distinct`). -/
theorem C03_dispatch_each_line_exactly_once (M : Cfg Line Result) (sel : List (Nat × Line))
    (hc : 1 ≤ M.conc) (hok : NoFatal M sel) (n : Nat) (s : State Line Result)
    (he : Exec M (init sel) n s) (hst : Stuck M s) :
    List.Perm (s.finished.map Prod.fst) (sel.map Prod.fst) :=
  finished_ids (maximal hc hok he hst).2.2

/-- The executable dispatcher of the model driver (`dispatch.run`) performs only transitions of the
transition system, and a state without enabled successor is stuck. -/
theorem C03_driver_schedule_is_execution (M : Cfg Line Result) (cs : List Nat) (s : State Line Result) :
    (∃ n, Exec M s n (runSchedule M s cs)) ∧ (successors M s = [] → Stuck M s) := by
  refine ⟨runSchedule_exec M cs s, ?_⟩
  intro h s' hs
  have := (mem_successors_iff M s s').mpr hs
  rw [h] at this; cases this

/-! non-vacuity: three lines, one failing, concurrency 2 — two schedules finish all three (that the end state has no
successor, hence is `Stuck`, is evaluated in C11.lean) -/
example : NoFatal exCfg [(0, 10), (1, 11), (2, 12)] := by
  intro p _; exact ⟨_, rfl⟩
example : (runSchedule exCfg (init [(0, 10), (1, 11), (2, 12)]) (List.replicate 14 0)).finished
    = [(0, true), (1, false), (2, true)] := by decide
example : (runSchedule exCfg (init [(0, 10), (1, 11), (2, 12)]) [0, 0, 2, 1, 1, 1, 0, 0, 0, 0, 0, 0, 0]).finished
    = [(1, false), (0, true), (2, true)] := by decide

end Hermes.Dispatch
