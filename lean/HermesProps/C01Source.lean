/-
C01 / C06 — the water routine: the theorems about the source.

`HermesModel/Generated/ImpWater.lean` is the Lean translation of the current Go source of `hermes.Water` (hermes/water.go),
regenerated by harness/cmd/extract on every run (the translator, DESIGN §4.3) and validated against the compiled function bit for
bit by the `srcimp.Water` correspondence.  `HermesProofs/ImpWaterStages.lean` proves that the translation refines the hand-written
model `Water.step` — for every number of layers 1 ≤ N ≤ 20, every state, all three surface-flux branches with their `break`s,
drain at any depth, every capillary-rise constellation.  The theorems below restate the water balance of C01, the bounds of C06
and the uptake bound of C08 about the translated source; they stop checking when the source changes in a way that is not
behaviour-preserving.
-/
import HermesProofs.ImpWaterStages
import HermesProps.C01
import HermesProps.C06
import HermesProps.C08

namespace Hermes.Props.C01Source
open Hermes.Imp Hermes.Water Hermes.ImpWater
open Hermes.ImpSoiltemp (vw)
open Hermes.Generated.Imp.Water (St)

/-- **The source refines the model**: `WG[1]`, `TP`, `EV`, `Q1`, `QDRAIN` and the accumulators after `Water` are exactly what
`Water.step` computes from the inputs the source reads. -/
theorem C01_source_refines_model (m : MathFns ℚ) (hm : MathOK m) (s : St ℚ) (N : Nat) (h : Pre s N) :
    vw (Generated.Imp.Water.run m s).g_WG_1 N = (step (inOf s N)).wg1 ∧
    vw (Generated.Imp.Water.run m s).g_TP N = (step (inOf s N)).tp ∧
    vw (Generated.Imp.Water.run m s).l_EV N = (step (inOf s N)).ev ∧
    rd (Generated.Imp.Water.run m s).l_EV (N : Int) = (step (inOf s N)).evTail ∧
    vw (Generated.Imp.Water.run m s).g_Q1 (N + 1) = (step (inOf s N)).q1 ∧
    (Generated.Imp.Water.run m s).g_QDRAIN = (step (inOf s N)).qdrain ∧
    (Generated.Imp.Water.run m s).g_DRAISUM = s.g_DRAISUM + (step (inOf s N)).dDraisum ∧
    (Generated.Imp.Water.run m s).g_SICKER = s.g_SICKER + (step (inOf s N)).dSicker ∧
    (Generated.Imp.Water.run m s).g_CAPSUM = s.g_CAPSUM + (step (inOf s N)).dCapsum ∧
    (Generated.Imp.Water.run m s).g_INFILT = s.g_INFILT + (step (inOf s N)).dInfilt :=
  water_refines m hm s N h

theorem wf_inOf (s : St ℚ) (N : Nat) (hpos : 1 ≤ N) : WF (inOf s N) N where
  pos := hpos
  wg := by simp only [inOf]; split <;> exact vw_length ..
  tp := vw_length ..
  w := vw_length ..
  wmin := vw_length ..
  ev := vw_length ..
  nfk := vw_length ..

/-- **Sub-step balance of the source**: one call of `Water` changes the water stored in the profile, Σ WG·dz, by exactly
surface flux − (limited) root uptake − flux through the lower boundary `Q1[N]` − drain outflow — for every state. -/
theorem C01_source_step_balance (m : MathFns ℚ) (hm : MathOK m) (s : St ℚ) (N : Nat) (h : Pre s N) (hdz : s.g_DZ_Num ≠ 0) :
    storage s.g_DZ_Num (vw (Generated.Imp.Water.run m s).g_WG_1 N) =
      storage s.g_DZ_Num (inOf s N).wg - s.p_wdt * (vw (Generated.Imp.Water.run m s).g_TP N).sum + s.g_FLUSS0 * s.p_wdt
        - rd (Generated.Imp.Water.run m s).g_Q1 (N : Int) - (Generated.Imp.Water.run m s).g_QDRAIN := by
  obtain ⟨h1, h2, _, _, h5, h6, _⟩ := water_refines m hm s N h
  have hb := C01_water_step_balance (inOf s N) N (wf_inOf s N h.pos) hdz
  rw [← h1, ← h2, ← h5, ← h6, vw_getLastD] at hb
  exact hb

/-- **Reported quantities of the source**: the percolation and capillary counters together grow by ten times the flux through
the leaching depth minus the groundwater-uptake term, the drain counter by ten times the drain outflow. -/
theorem C01_source_reported_fluxes (m : MathFns ℚ) (hm : MathOK m) (s : St ℚ) (N : Nat) (h : Pre s N) :
    ((Generated.Imp.Water.run m s).g_SICKER - s.g_SICKER) + ((Generated.Imp.Water.run m s).g_CAPSUM - s.g_CAPSUM)
        = 10 * rd (Generated.Imp.Water.run m s).g_Q1 s.g_OUTN - 10 * s.l_GWAUF * s.p_wdt ∧
      (Generated.Imp.Water.run m s).g_DRAISUM - s.g_DRAISUM = 10 * (Generated.Imp.Water.run m s).g_QDRAIN := by
  obtain ⟨_, _, _, _, h5, h6, h7, h8, h9, _⟩ := water_refines m hm s N h
  obtain ⟨r1, r2⟩ := C01_water_reported_fluxes (inOf s N)
  have hout : rd (Generated.Imp.Water.run m s).g_Q1 s.g_OUTN = (step (inOf s N)).q1.getD (inOf s N).outn 0 := by
    rw [rd_eq_vw_getD _ (N + 1) _ h.outn0 (by have := h.outnN; omega), h5]
    rfl
  refine ⟨?_, ?_⟩
  · rw [h8, h9, hout]
    have : (inOf s N).gwauf = s.l_GWAUF ∧ (inOf s N).wdt = s.p_wdt := ⟨rfl, rfl⟩
    rw [← this.1, ← this.2, ← r1]; ring
  · rw [h7, h6, r2]; ring

/-- **C06, upper bound, for the source**: after every call of `Water` the water content of every layer is at most its field
capacity plus the capillary-rise increment the call added to that layer. -/
theorem C06_source_upper_bound_step (m : MathFns ℚ) (hm : MathOK m) (s : St ℚ) (N : Nat) (h : Pre s N) (hdz : 0 < s.g_DZ_Num)
    (j : Nat) (hj : j < N) :
    rd (Generated.Imp.Water.run m s).g_WG_1 (j : Int) ≤ rd s.g_W (j : Int) + capInc (inOf s N) j / s.g_DZ_Num := by
  obtain ⟨h1, _⟩ := water_refines m hm s N h
  exact C06_upper_bound_step (inOf s N) hdz j _ _ (h1 ▸ vw_getElem? _ N j hj) (vw_getElem? s.g_W N j hj)

/-- **C06, lower bound, first sub-step, for the source**: if the day starts with every layer at or above a third of its wilting
point (and the side conditions `Valid` hold: positive layer thickness, 0 ≤ wdt ≤ 1, drain fraction in [0,1], non-negative
capillary table, WMIN/3 ≤ W, WMIN ≥ 0), the first call of `Water` of the day (`subd = 1`) ends so. -/
theorem C06_source_lower_bound_first_step (m : MathFns ℚ) (hm : MathOK m) (s : St ℚ) (N : Nat) (h : Pre s N)
    (hv : Valid (inOf s N)) (hfirst : s.p_subd = 1)
    (hstart : ∀ j : Nat, j < N → rd s.g_WMIN (j : Int) / 3 ≤ rd s.g_WG_0 (j : Int))
    (j : Nat) (hj : j < N) :
    rd s.g_WMIN (j : Int) / 3 ≤ rd (Generated.Imp.Water.run m s).g_WG_1 (j : Int) := by
  obtain ⟨h1, _⟩ := water_refines m hm s N h
  refine C06_lower_bound_first_step (inOf s N) hv (by simp [inOf, hfirst]) ?_ j _ _ (h1 ▸ vw_getElem? _ N j hj)
    (vw_getElem? s.g_WMIN N j hj)
  intro k g mm hg hmm
  have hk : k < N := by simpa [inOf] using (List.getElem?_eq_some_iff.mp hmm).1
  simp only [inOf, hfirst, if_true, vw_getElem? _ N k hk, Option.some.injEq] at hg hmm
  subst hg hmm
  exact hstart k hk

/-- **C08, uptake ≤ plant-available water, for the source**: after the first call of `Water` of the day (`subd = 1`) the root
uptake `TP[j]` of every layer is at most the water above the wilting point the day started with (zero for a layer drier than
that). -/
theorem C08_source_tp_le_available (m : MathFns ℚ) (hm : MathOK m) (s : St ℚ) (N : Nat) (h : Pre s N) (hfirst : s.p_subd = 1)
    (j : Nat) (hj : j < N) :
    rd (Generated.Imp.Water.run m s).g_TP (j : Int)
      ≤ max 0 ((rd s.g_WG_0 (j : Int) - rd s.g_WMIN (j : Int)) * s.g_DZ_Num) := by
  obtain ⟨_, h2, _⟩ := water_refines m hm s N h
  have htp : (step (inOf s N)).tp = limitTp s.g_DZ_Num (vw s.g_TP N) (vw s.g_WG_0 N) (vw s.g_WMIN N) := by
    show (phaseUptake (inOf s N)).1 = _
    simp [phaseUptake, inOf, hfirst]
  rw [htp] at h2
  exact Hermes.Evatra.C08_tp_le_available s.g_DZ_Num _ _ _ j _ _ _ (h2 ▸ vw_getElem? _ N j hj)
    (vw_getElem? _ N j hj) (vw_getElem? _ N j hj)

/-- the state after a chain of sub-steps of the source: before every call of `Water` the rest of the simulation changes the state
(the functions `p` of the list: fluxes of the sub-step, nitrogen routines, …), then `Water` runs -/
def chainEnd (m : MathFns ℚ) : List (St ℚ → St ℚ) → St ℚ → St ℚ
  | [], s => s
  | p :: ps, s => chainEnd m ps (Generated.Imp.Water.run m (p s))

/-- surface flux − root uptake − lower-boundary flux − drain outflow, summed over the calls of the chain -/
def chainFlux (m : MathFns ℚ) (N : Nat) : List (St ℚ → St ℚ) → St ℚ → ℚ
  | [], _ => 0
  | p :: ps, s =>
    ((p s).g_FLUSS0 * (p s).p_wdt - (p s).p_wdt * (vw (Generated.Imp.Water.run m (p s)).g_TP N).sum
        - rd (Generated.Imp.Water.run m (p s)).g_Q1 (N : Int) - (Generated.Imp.Water.run m (p s)).g_QDRAIN)
      + chainFlux m N ps (Generated.Imp.Water.run m (p s))

/-- **Balance over any number of sub-steps, for the source** (induction over the calls): along a chain of later sub-steps
(`subd ≠ 1`: `Water` starts from the water contents `WG[1]` the previous call left) in which nothing but `Water` changes `WG[1]`,
the water stored in the profile changes by exactly the sum of the per-call terms surface flux − uptake − lower-boundary flux −
drain outflow — whatever the number of sub-steps, their lengths and fluxes. -/
theorem C01_source_substeps_balance (m : MathFns ℚ) (hm : MathOK m) (N : Nat) (dz : ℚ) (hdz : dz ≠ 0) :
    ∀ (preps : List (St ℚ → St ℚ)) (s : St ℚ),
      (∀ p ∈ preps, ∀ t, Pre (p t) N ∧ (p t).g_DZ_Num = dz ∧ (p t).p_subd ≠ 1 ∧ (p t).g_WG_1 = t.g_WG_1) →
      storage dz (vw (chainEnd m preps s).g_WG_1 N) = storage dz (vw s.g_WG_1 N) + chainFlux m N preps s := by
  intro preps
  induction preps with
  | nil => intro s _; simp [chainEnd, chainFlux]
  | cons p ps ih =>
    intro s h
    obtain ⟨hpre, hz, hsub, hkeep⟩ := h p (by simp) s
    have hstep := C01_source_step_balance m hm (p s) N hpre (by rw [hz]; exact hdz)
    have hwg : (inOf (p s) N).wg = vw s.g_WG_1 N := by
      simp only [inOf, hsub, if_false, hkeep]
    rw [hwg, hz] at hstep
    have hrest := ih (Generated.Imp.Water.run m (p s)) (fun q hq => h q (by simp [hq]))
    simp only [chainEnd, chainFlux]
    rw [hrest, hstep]
    ring

def demoState : St ℚ :=
  { p_wdt := 1 / 2, p_subd := 1, p_zeit := 100, v_WATER_0 := [], v_WATER_1 := [], g_N := 3, g_WG_0 := [0.2, 0.25, 0.3, 0.3],
    g_WMIN := [0.1, 0.1, 0.1], g_DZ_Num := 10, g_TP := [0.02, 0.01, 0], g_WG_1 := [0, 0, 0, 0], g_QDRAIN := 0, g_FLUSS0 := 0.8,
    v_a := 0, g_Q1 := [0, 0, 0, 0], g_W := [0.3, 0.3, 0.3, 0.3], g_DRAIDEP := 2, g_DRAIFAK := 0.2, v_a1 := 0,
    l_LIMIT := [0, 0, 0], l_EV := [0, 0, 0, 0], v_wlost := 0, v_caplay := 0, v_capdep := 0, l_NFK := [0.5, 0.8, 1], v_GWDIST := 0,
    g_GRW := 12, v_GWDISTindex := 0, g_CAPS := List.replicate 21 0.1, g_PFTRANS := 0, g_TRAY := 0, g_SAAT := [50],
    g_AKF_Index := 0, g_TRAG := 0, g_ETAG := 0, g_TP3 := 0, g_TP6 := 0, g_TP9 := 0, g_ETA := 0.1, g_DRAISUM := 0, g_OUTN := 3,
    g_SICKER := 0, g_CAPSUM := 0, l_GWAUF := 0, g_PERG := 0, g_INFILT := 0, brk := false }

-- non-vacuity: a concrete three-layer state satisfies `Pre`
example : Pre demoState 3 := by
  constructor <;> simp [demoState]

end Hermes.Props.C01Source
