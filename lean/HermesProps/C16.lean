/-
C16 — Crop rotation is followed and automatic management respects its windows.
Model: HermesModel/Rotation.lean (run.go:430-466, 551-592, 629-636; crop.go:61-64, 150, 182-204, 549-555;
nitro.go:118-124, 293-505; input.go:354-590 for the arrays).

Weather- and state-dependent trigger conditions are arbitrary Booleans, so every statement holds for all
weather. The property's premise ("sowing windows open after the latest harvest date of the preceding
crop") appears as the hypotheses `ERNTE2[i] < SAAT1[i+1]`, `SAAT1 ≤ SAAT2`.
-/
import HermesProofs.Rotation
import HermesProofs.RatInst
import Mathlib.Tactic.Linarith

namespace Hermes.Rotation

/-- Automatic sowing inside the window. If the crop is not yet sown and the end of its window has not
passed, the sowing block either leaves it unsown or sows it today, with SAAT1 ≤ today ≤ SAAT2 — for every
value of the weather trigger. -/
theorem C16_auto_sowing_in_window (c : Cfg) (zeit : Nat) (trig : Bool) (s : St)
    (h0 : s.saat s.akf = 0) (hwin : zeit ≤ s.saat2 s.akf) :
    (sowingBlock c zeit trig s).saat s.akf = 0 ∨
    ((sowingBlock c zeit trig s).saat s.akf = zeit ∧ s.saat1 s.akf ≤ zeit ∧ zeit ≤ s.saat2 s.akf) := by
  rw [sowingBlock_eq]; split
  · rename_i h
    obtain ⟨-, -, -, h1⟩ := (sowGate_iff _ _ _).mp h.1
    exact Or.inr ⟨upd_same _ _ _, h1, hwin⟩
  · exact Or.inl h0

/-- Forced sowing at the end of the window: on the day SAAT2 an unsown current crop is sown whatever the
weather, so while the crop stays unsown the end of its window still lies ahead on the next day (the
hypothesis `zeit ≤ SAAT2` of `C16_auto_sowing_in_window` is re-established). -/
theorem C16_forced_sowing_at_window_end (c : Cfg) (zeit : Nat) (trig : Bool) (s : St)
    (hc : c.automan = true) (ha : 1 ≤ s.akf) (h0 : s.saat s.akf = 0) (hwin : zeit ≤ s.saat2 s.akf)
    (h12 : s.saat1 s.akf ≤ s.saat2 s.akf) (hz : 0 < zeit) :
    (sowingBlock c zeit trig s).saat s.akf = 0 → zeit + 1 ≤ s.saat2 s.akf := by
  rw [sowingBlock_eq]; split
  · intro h
    have : (setSaat s zeit).saat s.akf = zeit := upd_same _ _ _
    omega
  · rename_i h
    intro _
    -- on the last day of the window the gate is open and the block sows
    have : ¬ zeit = s.saat2 s.akf := fun he => h ⟨(sowGate_iff _ _ _).mpr ⟨hc, ha, h0, by omega⟩, Or.inr he⟩
    omega

/-- Automatic sowing is after the previous harvest under the property's premise (the window opens after
the harvest of the predecessor); the weather-triggered branch even keeps four days of distance. -/
theorem C16_auto_sowing_after_previous_harvest (c : Cfg) (zeit : Nat) (trig : Bool) (s : St)
    (h0 : s.saat s.akf = 0) (hprem : s.ernte (s.akf - 1) < s.saat1 s.akf) :
    (sowingBlock c zeit trig s).saat s.akf ≠ 0 → s.ernte (s.akf - 1) < (sowingBlock c zeit trig s).saat s.akf := by
  rw [sowingBlock_eq]; split
  · rename_i h
    intro _
    obtain ⟨-, -, -, h1⟩ := (sowGate_iff _ _ _).mp h.1
    have : (setSaat s zeit).saat s.akf = zeit := upd_same _ _ _
    omega
  · exact fun hne => absurd h0 hne

/-- At the crop switch the premise hands the invariant on: the successor becomes current on a day before
its window opens. -/
theorem C16_window_ahead_at_crop_switch (c : Cfg) (zeit : Nat) (s : St)
    (hinv : HarvInv s) (hz : 0 < zeit)
    (hprem : s.ernte2 s.akf < s.saat1 (s.akf + 1)) (h12 : s.saat1 (s.akf + 1) ≤ s.saat2 (s.akf + 1)) :
    (harvest c zeit false s).akf ≠ s.akf →
    (harvest c zeit false s).akf = s.akf + 1 ∧ zeit < (harvest c zeit false s).saat1 (s.akf + 1) ∧
    zeit ≤ (harvest c zeit false s).saat2 (s.akf + 1) := by
  rw [harvest_false]
  split
  · rename_i he
    intro _
    have : zeit ≤ s.ernte2 s.akf := by
      rcases hinv with h | h <;> omega
    exact ⟨rfl, show zeit < s.saat1 _ by omega, show zeit ≤ s.saat2 _ by omega⟩
  · intro h; exact absurd rfl h

/-- The latest-harvest invariant `ERNTE = 0 ∨ ERNTE ≤ ERNTE2` of the current crop is kept by the sowing
block and by `PhytoOut` (automatic harvest sets both to today, forced harvest sets ERNTE to ERNTE2), for
every trigger value. -/
theorem C16_latest_harvest_invariant (c : Cfg) (zeit : Nat) (trig em ht : Bool) (s : St) (h : HarvInv s) :
    HarvInv (phyto zeit em ht (sowingBlock c zeit trig s)) :=
  (keeps_sow_phyto c zeit trig em ht s).harvInv h

/-- The crop switch happens exactly on the day ERNTE of the current crop; with the invariant the harvest
is therefore not later than the configured latest harvest date. -/
theorem C16_harvest_le_latest (c : Cfg) (zeit : Nat) (orgH : Bool) (s : St) (hinv : HarvInv s) (hz : 0 < zeit) :
    (harvest c zeit orgH s).akf ≠ s.akf → zeit = s.ernte s.akf ∧ zeit ≤ s.ernte2 s.akf := by
  intro hne
  have he := (harvest_akf_ne_iff c zeit orgH s).mp hne
  exact ⟨he, by rcases hinv with h | h <;> omega⟩

/-- With fixed dates nothing moves: without AutoSowingHarvest the sowing block is the identity, and for a
crop with a fixed harvest date (ERNTE ≠ 0) `PhytoOut` leaves the rotation arrays untouched; the sowing
event is written exactly on the day SAAT, the crop switch happens exactly on the day ERNTE. -/
theorem C16_fixed_dates_exact (c : Cfg) (zeit : Nat) (trig em ht orgH : Bool) (s : St)
    (hman : c.automan = false) (hfix : s.ernte s.akf ≠ 0) :
    sowingBlock c zeit trig s = s ∧
    (phyto zeit em ht s).saat = s.saat ∧ (phyto zeit em ht s).ernte = s.ernte ∧ (phyto zeit em ht s).ernte2 = s.ernte2 ∧
    ((phyto zeit em ht s).sown ≠ s.sown → zeit = s.saat s.akf) ∧
    ((harvest c zeit orgH s).akf ≠ s.akf ↔ zeit = s.ernte s.akf) := by
  refine ⟨by simp [sowingBlock, sowGate, hman], ?_⟩
  have hE := harvest_akf_ne_iff c zeit orgH s
  obtain ⟨ea, -, e1, e2⟩ := quiet_sowEvent zeit s
  have hsw : (sowEvent zeit s).saat = s.saat ∧ ((sowEvent zeit s).sown ≠ s.sown → zeit = s.saat s.akf) := by
    unfold sowEvent; split
    · exact ⟨rfl, fun _ => ‹_›⟩
    · exact ⟨rfl, fun h => absurd rfl h⟩
  have hfix' : (sowEvent zeit s).ernte (sowEvent zeit s).akf ≠ 0 := by rw [e1, ea]; exact hfix
  -- with a harvest date set, `PhytoOut` does at most the sowing event
  have hph : phyto zeit em ht s = sowEvent zeit s ∨ phyto zeit em ht s = s := by
    unfold phyto; split
    · left; rw [harvests_eq, if_neg hfix']
    · right; rfl
  rcases hph with h | h <;> rw [h]
  · exact ⟨hsw.1, e1, e2, hsw.2, hE⟩
  · exact ⟨rfl, rfl, rfl, fun h' => absurd rfl h', hE⟩

/-- On the eve of the latest harvest date a standing crop without a harvest date gets one, whether it has
emerged or not and whatever the trigger says (the test behind the emerged-crop branch, crop.go:549-555, is
what covers a crop that has not emerged): the rotation cannot get stuck on a crop sown shortly before its
latest harvest date. -/
theorem C16_harvest_date_set_on_eve_of_latest_date (zeit : Nat) (em ht : Bool) (s : St)
    (hg : growing zeit s = true) (h0 : s.ernte s.akf = 0) (he : zeit + 1 = s.ernte2 s.akf) :
    (phyto zeit em ht s).ernte s.akf = zeit ∨ (phyto zeit em ht s).ernte s.akf = zeit + 1 := by
  obtain ⟨e3, -, e1, e2⟩ := quiet_sowEvent zeit s
  rw [phyto, if_pos hg, harvests_eq, ← e3]
  generalize sowEvent zeit s = t at e1 e2 e3
  have hte : zeit + 1 = t.ernte2 t.akf := by rw [e2, e3]; exact he
  rw [if_pos (by rw [e1, e3]; exact h0)]
  split_ifs
  · left; rw [(quiet_pushNextSowing _ _ _).ernte]; exact upd_same _ _ _
  · right; exact upd_same _ _ _
  · right; rw [(quiet_pushNextSowing _ _ _).ernte]; exact upd_same _ _ _

/-- One harvest step without the skipped-crop branch: the record written carries the index of the
harvested rotation entry (hence its crop code) and the harvest day (hence its year), and the next entry
becomes current. -/
theorem C16_record_carries_entry (c : Cfg) (zeit : Nat) (s : St) (ha : 1 ≤ s.akf) (he : zeit = s.ernte s.akf) :
    (harvest c zeit false s).akf = s.akf + 1 ∧
    (harvest c zeit false s).records = s.records ++ [(s.akf, zeit)] := by
  rw [harvest_false, if_pos he, if_pos ha]
  exact ⟨rfl, rfl⟩

/-- Crops are grown in rotation order: over any number of days, for every weather / trigger history
without the skipped-crop branch, the records written are those of the entries 1, 2, …, AKF−1 in order. -/
theorem C16_crops_in_rotation_order (c : Cfg) : ∀ (ins : List DayIn) (zeit : Nat) (s : St),
    (∀ i ∈ ins, i.orgH = false) → s.records.map (·.1) = List.range' 1 (s.akf - 1) →
    (run c zeit ins s).records.map (·.1) = List.range' 1 ((run c zeit ins s).akf - 1) := by
  intro ins
  induction ins with
  | nil => intro zeit s _ h; exact h
  | cons i r ih =>
    intro zeit s hi h
    refine ih (zeit + 1) _ (fun j hj => hi j (by simp [hj])) ?_
    rw [day, hi i (by simp)]
    -- the sowing block and `PhytoOut` leave `AKF` and the records alone; the harvest step appends entry `AKF`
    obtain ⟨hqa, hqr, -⟩ := keeps_sow_phyto c zeit i.trig i.emerged i.harTrig s
    generalize phyto zeit i.emerged i.harTrig (sowingBlock c zeit i.trig s) = q at hqa hqr
    rw [← hqa, ← hqr] at h
    rw [harvest_false]
    split
    · by_cases ha : 1 ≤ q.akf
      · simp only [if_pos ha, List.map_append, List.map_cons, List.map_nil, h]
        rw [show q.akf + 1 - 1 = (q.akf - 1) + 1 by omega, List.range'_concat]
        simp; omega
      · simpa [ha, show q.akf = 0 by omega] using h
    · exact h

/-- Automatic irrigation only for a sown crop, after the sowing day, between the configured stages. -/
theorem C16_irrigation_only_between_stages (saat zeit intwick st1 st2 : Nat)
    (h : irrGate saat zeit intwick st1 st2 = true) :
    0 < saat ∧ saat < zeit ∧ st1 ≤ intwick ∧ intwick ≤ st2 := by
  simp only [irrGate, Bool.and_eq_true, decide_eq_true_eq] at h
  omega

/-- The daily amount never exceeds the configured maximum. -/
theorem C16_irrigation_le_max (defzsum irrmax : ℚ) : irrAmount defzsum irrmax ≤ irrmax := by
  rw [irrAmount, fmin_eq_min]; exact min_le_right _ _

/-- The deficit of a layer is not negative when field capacity lies above the wilting point (C15's
ordering), hence neither is the sum. -/
theorem C16_layer_deficit_nonneg (wg w wmin : ℚ) (hw : wmin < w) : 0 ≤ (layerNfkDefz wg w wmin).2 := by
  have hpos : 0 < w - wmin := sub_pos.mpr hw
  unfold layerNfkDefz
  simp only [← max_def_lt]  -- the clamp from below is `max · 0`
  split
  · exact le_refl _
  · rename_i h1
    -- not above 1 after the clamp from below: `wg ≤ w`
    have h2 : (wg - wmin) / (w - wmin) ≤ 1 := le_trans (le_max_left _ _) (not_lt.mp h1)
    rw [div_le_one hpos] at h2
    exact mul_nonneg (by linarith) (by norm_num)

/-- The automatic irrigation amount is not negative for a non-negative deficit sum and maximum. -/
theorem C16_irrigation_nonneg (defzsum irrmax : ℚ) (hd : 0 ≤ defzsum) (hm : 0 ≤ irrmax) :
    0 ≤ irrAmount defzsum irrmax := by
  rw [irrAmount, fmin_eq_min]
  exact le_min (mul_nonneg hd (by norm_num)) hm

/-- Automatic N applications are never negative. -/
theorem C16_auto_n_nonneg (ndem nmin : ℚ) : 0 ≤ autoN ndem nmin :=
  autoN_nonneg ndem nmin

/-- The crop record of a harvested entry is written and the next entry becomes current — the skipped-crop
branch does not fire — whenever the sowing window of the successor has not ended, for every setting of the
switches and of the organic-fertiliser flag. -/
theorem C16_record_kept_when_successor_window_ahead (c : Cfg) (zeit : Nat) (orgH : Bool) (s : St)
    (ha : 1 ≤ s.akf) (he : zeit = s.ernte s.akf) (hw : zeit < s.saat2 (s.akf + 1)) :
    (harvest c zeit orgH s).akf = s.akf + 1 ∧
    (harvest c zeit orgH s).records = s.records ++ [(s.akf, zeit)] := by
  rw [harvest_eq c zeit orgH s (fun h => by omega), if_pos he, if_pos ha]
  exact ⟨rfl, rfl⟩

/-- The placeholder entry behind the last rotation entry: its window lies one year after the sowing (fixed
date) or after the end of the sowing window (automatic sowing) of the last entry, so a last crop harvested
within a year of that day is never taken for "successor skipped": its record is kept. -/
theorem C16_last_entry_not_skipped (c : Cfg) (zeit saatLast : Nat) (orgH : Bool) (s : St)
    (ha : 1 ≤ s.akf) (he : zeit = s.ernte s.akf)
    (hph : s.saat2 (s.akf + 1) = placeholderWindow saatLast (s.saat2 s.akf))
    (hyear : zeit < (if saatLast = 0 then s.saat2 s.akf else saatLast) + 365) :
    (harvest c zeit orgH s).akf = s.akf + 1 ∧
    (harvest c zeit orgH s).records = s.records ++ [(s.akf, zeit)] := by
  apply C16_record_kept_when_successor_window_ahead c zeit orgH s ha he
  rw [hph]
  exact hyear

example : placeholderWindow 0 50400 = 50765 ∧ placeholderWindow 50390 50400 = 50755 := by decide
example : irrGate 100 120 3 2 5 = true := by decide
example : irrAmount (30 : ℚ) 25 = 25 := by decide +kernel
example : autoN (120 : ℚ) 45 = 75 := by decide +kernel
example : (sowingBlock ⟨true, false⟩ 130 false
    { akf := 1, saat := fun _ => 0, saat1 := fun _ => 100, saat2 := fun _ => 130, ernte := fun _ => 50, ernte2 := fun _ => 50 }).saat 1 = 130 := by
  decide
example : (day ⟨false, false⟩ 200 false true false false
    { akf := 1, saat := fun _ => 120, saat1 := fun _ => 0, saat2 := fun _ => 0, ernte := fun _ => 200, ernte2 := fun _ => 200 }).akf = 2 := by
  decide

end Hermes.Rotation
