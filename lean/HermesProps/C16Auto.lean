/-
C16 (automatic N applications are never negative), C10 (each fertilisation carried out exactly once) and the
N-input side of C02 / C07 for the automatic-fertilisation branch of `Nitro` (hermes/nitro.go:71-229) and the
part of the automan.txt reader behind it (hermes/input.go:508-541, 556-569, 1550-1567).
Model: HermesModel/AutoFert.lean (`step` = one call in the first sub-step, `run` = the days of one rotation
entry), tied to the real `hermes.Nitro` by the correspondence stages "autofert.step", "autofert.run",
"autofert.row" of the C16 check.  Exact-arithmetic statements over ℚ.

Weather (five temperatures, three rain values), the mineral N of the layers, the development stage, the rooted
depth and the day of the year are inputs of every day: the statements hold for all of them.  Where a proof needs one,
the hypotheses `Stable`, `HasStage`, `TagsAscend` (HermesProofs/AutoFert.lean) are named; `HasStage` is confirmed for
every rotation entry by the whole-run search.
-/
import HermesProofs.AutoFert
import HermesProps.C10
import Mathlib.Tactic.Ring

namespace Hermes.AutoFert
open Hermes.Rotation (autoN)

/-- Every mineral dose of a call is ≥ 0 — for every state, row, weather and stage. -/
theorem C16_autofert_dose_nonneg (i : In ℚ) (s : St ℚ) (a : App ℚ) (ha : a ∈ (step i s).2)
    (hk : a.kind.isMineral = true) : 0 ≤ a.amount := by
  obtain ⟨k, e⟩ := mineral_amount ha hk
  rw [e]; exact Rotation.autoN_nonneg _ _

/-- A mineral dose is never above its configured demand NDEMk, when the demand and the mineral N of the layers it is measured
against are not negative (C07: the pools are not negative; `C1[0]` may even start negative when the "S"
application of the same call clamps it). -/
theorem C16_autofert_dose_le_demand (i : In ℚ) (s : St ℚ) (a : App ℚ) (ha : a ∈ (step i s).2)
    (hk : a.kind.isMineral = true) (hc : 0 ≤ s.c10) (hr : ∀ x ∈ i.c1rest, 0 ≤ x) (hd : 0 ≤ demand i a.kind) :
    a.amount ≤ demand i a.kind := by
  obtain ⟨k, e⟩ := mineral_amount ha hk
  rw [e]; exact Rotation.autoN_le _ _ hd (nminTop_nonneg k _ _ (c10After_nonneg i s hc) hr)

/-- The same over all the days of a rotation entry: no mineral application of a run is negative. -/
theorem C16_autofert_run_doses_nonneg (ds : List (In ℚ)) (zeit : Nat) (s : St ℚ) (x : Nat × App ℚ)
    (hx : x ∈ (run zeit ds s).2) (hk : x.2.kind.isMineral = true) : 0 ≤ x.2.amount := by
  obtain ⟨i, s', ha⟩ := mem_run ds zeit s x hx
  exact C16_autofert_dose_nonneg i s' x.2 ha hk

/-- `NFERTSIM` never decreases in the branch; `DSUMM` neither when the mineral part of the organic fertiliser of
the previous entry is not negative. -/
theorem C16_autofert_sums_never_decrease (i : In ℚ) (s : St ℚ) :
    s.nfertsim ≤ (step i s).1.nfertsim ∧ (0 ≤ i.prev.ndir → s.dsumm ≤ (step i s).1.dsumm) := by
  constructor
  · simp only [step]
    exact le_trans (le_trans (addIf_ge _ _ _ (Rotation.autoN_nonneg _ _)) (addIf_ge _ _ _ (Rotation.autoN_nonneg _ _)))
      (addIf_ge _ _ _ (Rotation.autoN_nonneg _ _))
  · intro h
    simp only [step]
    exact le_trans (le_trans (le_trans (addIf_ge _ _ _ h) (addIf_ge _ _ _ (Rotation.autoN_nonneg _ _)))
      (addIf_ge _ _ _ (Rotation.autoN_nonneg _ _))) (addIf_ge _ _ _ (Rotation.autoN_nonneg _ _))

/-- The same over any number of days (`C16_autofert_sums_never_decrease` for one call). -/
theorem C16_autofert_run_sums_never_decrease (ds : List (In ℚ)) (zeit : Nat) (s : St ℚ) :
    s.nfertsim ≤ (run zeit ds s).1.nfertsim ∧ ((∀ d ∈ ds, 0 ≤ d.prev.ndir) → s.dsumm ≤ (run zeit ds s).1.dsumm) := by
  constructor
  · exact run_mono St.nfertsim ds zeit s fun _ _ _ s => (C16_autofert_sums_never_decrease _ s).1
  · intro h
    exact run_mono St.dsumm ds zeit s fun d hd _ s => (C16_autofert_sums_never_decrease _ s).2 (h d hd)

/-- What one call books: `DSUMM` rises by the mineral N of every application except the "S" one, `NFERTSIM` by the
mineral doses, `NFOS[0]` / `NAOS[0]` by the fast / slow organic N of the applications. -/
theorem C16_autofert_booked_amounts (i : In ℚ) (s : St ℚ) :
    (step i s).1.dsumm = s.dsumm + sumAmount (fun k => k != Kind.orgS) (step i s).2 ∧
    (step i s).1.nfertsim = s.nfertsim + sumAmount Kind.isMineral (step i s).2 ∧
    (step i s).1.nfos0 = s.nfos0 + sumFast (step i s).2 ∧
    (step i s).1.naos0 = s.naos0 + sumSlow (step i s).2 := by
  -- both sides become `s.x +` one conditional summand per application
  simp only [step, sumAmount, sumFast, sumSlow, List.filter_append, List.map_append, List.sum_append, filter_opt,
    sum_map_opt, addIf_eq]
  simp [Kind.isMineral, add_assoc]

/-- The "S" application puts the mineral part straight into `C1[0]`, clamped at 0: afterwards `C1[0] ≥ 0`, the
clamp can only add (`C1[0]' ≥ C1[0] + NDIR`), and it adds nothing when `C1[0] + NDIR ≥ 0`; without the "S"
application of the call `C1[0]` is untouched. -/
theorem C16_autofert_S_clamp (i : In ℚ) (s : St ℚ) :
    (flag .orgS i s = true → 0 ≤ (step i s).1.c10 ∧ s.c10 + i.cur.ndir ≤ (step i s).1.c10 ∧
      (0 ≤ s.c10 + i.cur.ndir → (step i s).1.c10 = s.c10 + i.cur.ndir)) ∧
    (flag .orgS i s = false → (step i s).1.c10 = s.c10) := by
  have hc : (step i s).1.c10 = c10S i (flag .orgS i s) s.c10 := rfl
  rw [hc]
  constructor
  · intro h
    rw [h]
    simp only [c10S, if_true, clamp0_eq_max]
    exact ⟨le_max_right _ _, le_max_left _ _, max_eq_left⟩
  · intro h
    rw [h]; simp [c10S]

/-- Before the sowing day (or without a sown entry: `SAAT = 0`) the only thing a call can do is the organic
fertiliser of the PREVIOUS entry: no other application, and `NDOY1..3`, `ZTDG`, `C1[0]`, `NFERTSIM` untouched. -/
theorem C16_autofert_nothing_before_sowing (i : In ℚ) (s : St ℚ) (h : i.saat = 0 ∨ i.zeit < i.saat) :
    (∀ a ∈ (step i s).2, a.kind = Kind.orgH) ∧
    (step i s).1.ndoy1 = s.ndoy1 ∧ (step i s).1.ndoy2 = s.ndoy2 ∧ (step i s).1.ndoy3 = s.ndoy3 ∧
    (step i s).1.ztdg = s.ztdg ∧ (step i s).1.c10 = s.c10 ∧ (step i s).1.nfertsim = s.nfertsim := by
  have hg : sown i = false := by
    rw [← Bool.not_eq_true, sown_iff]; omega
  refine ⟨?_, ?_⟩
  · intro a ha
    have := ((mem_step i s a).mp ha).1
    cases hk : a.kind <;> simp [hk, flag, firesS, hg] at this ⊢
  · simp [step, hg, addIf, c10After, firesS, c10S]

/-- The "H" application is made exactly when the previous entry has organic fertiliser with time code "H" and the
day is `ZTDG` of the previous entry; it carries that entry's amounts and fertiliser name. -/
theorem C16_autofert_orgH_on_ztdg_of_previous (i : In ℚ) (s : St ℚ) :
    ((∃ a ∈ (step i s).2, a.kind = Kind.orgH) ↔
      (1 ≤ i.akf ∧ i.prev.odu = true ∧ i.prev.orgtime = OrgTime.H ∧ i.zeit = i.ztdgPrev)) ∧
    (∀ a ∈ (step i s).2, a.kind = Kind.orgH →
      a.amount = i.prev.ndir ∧ a.fast = i.prev.nsas ∧ a.slow = i.prev.nlas ∧ a.name = i.prev.dgart) := by
  constructor
  · constructor
    · rintro ⟨a, ha, hk⟩
      have := ((mem_step i s a).mp ha).1
      rw [hk] at this
      simpa [flag, trigH, and_assoc] using this
    · intro h
      have ht : flag .orgH i s = true := by simp [flag, trigH, h.1, h.2.1, h.2.2.1, h.2.2.2]
      exact ⟨app i s .orgH, (mem_step i s _).mpr ⟨ht, rfl⟩, rfl⟩
  · intro a ha hk
    rw [((mem_step i s a).mp ha).2, hk]
    exact ⟨rfl, rfl, rfl, rfl⟩

/-- Over the days `zeit, zeit+1, …` of an entry whose predecessor has organic fertiliser with time code "H": the
application is made exactly once when `ZTDG` of the predecessor is one of the days, otherwise not at all. -/
theorem C16_autofert_orgH_exactly_once (ds : List (In ℚ)) (zeit z : Nat) (s : St ℚ)
    (h : ∀ d ∈ ds, 1 ≤ d.akf ∧ d.prev.odu = true ∧ d.prev.orgtime = OrgTime.H ∧ d.ztdgPrev = z) :
    fired .orgH (run zeit ds s).2 = if zeit ≤ z ∧ z < zeit + ds.length then 1 else 0 := by
  refine fired_on_day .orgH z
    (fun _ ds _ => ∀ d ∈ ds, 1 ≤ d.akf ∧ d.prev.odu = true ∧ d.prev.orgtime = OrgTime.H ∧ d.ztdgPrev = z) ?_ ds zeit s h
  intro zeit d ds s h
  obtain ⟨⟨ha, ho, ht, hz⟩, h'⟩ := List.forall_mem_cons.mp h
  exact ⟨by simp [flag, trigH, ha, ho, ht, hz], h'⟩

/-- Dose 1 is applied at most once per rotation entry over any sequence of days, for every trigger kind
(sowing day, stage, day of the year), every stage history and all weather — given that `SAAT` of the entry does
not move once set.  In particular a dose fired at a stage (`NDOY1 := 0`) does not fire again "at sowing", and the
day-of-year dose (`NDOY1 := 370`) is applied once per entry, not once per year. -/
theorem C16_autofert_dose1_at_most_once (ds : List (In ℚ)) (zeit sa : Nat) (s : St ℚ) (h : Stable sa ds) :
    fired .min1 (run zeit ds s).2 ≤ 1 := by
  refine fired_le_one .min1 (fun _ ds _ => ∃ sa, Stable sa ds) ?_ ds zeit s ⟨sa, h⟩
  rintro zeit d ds s ⟨sa, hst⟩
  refine ⟨fun _ => ⟨d.saat, hst.2⟩, fun hf => ?_⟩
  -- re-armed to 0 behind the sowing day, or to 370
  have hn : (step { d with zeit := zeit } s).1.ndoy1 = rearm1 s.ndoy1 := by rw [step_ndoy1, hf]; rfl
  unfold rearm1 at hn
  split at hn
  · exact dose1_after_sowing ds _ _ hn (Behind.of_sown (Bool.and_eq_true_iff.mp hf).1 hst)
  · exact dose1_spent ds _ _ (by omega)

/-- `NDOY1 = 0`: dose 1 is applied on the sowing day only. -/
theorem C16_autofert_dose1_at_sowing_only (i : In ℚ) (s : St ℚ) (h0 : s.ndoy1 = 0)
    (a : App ℚ) (ha : a ∈ (step i s).2) (hk : a.kind = Kind.min1) : i.zeit = i.saat ∧ 0 < i.saat := by
  have := ((mem_step i s a).mp ha).1
  rw [hk] at this
  simp only [flag, sown, fire1, h0, Bool.and_eq_true, decide_eq_true_eq] at this
  exact ⟨by simpa using this.2, this.1.1⟩

/-- The hypothesis is needed: were `SAAT` rewritten to a later day after a stage-triggered dose 1, the dose would
be applied again on that day. -/
theorem C16_autofert_dose1_refires_if_sowing_day_moves :
    ∃ (ds : List (In ℚ)) (s : St ℚ), fired .min1 (run 100 ds s).2 = 2 := by
  let r : Row ℚ := ⟨false, .other, 0, 0, 0, 0, 0, 50, 0, 0⟩
  let d (saat intwick : Nat) : In ℚ := ⟨0, 120, intwick, 1, 1, saat, 0, r, r, [], 0, 0, 0, 0, 0, 0, 0, 0⟩
  refine ⟨[d 90 2, d 101 2], ⟨2, 0, 0, 0, 0, 0, 0, 0, 0, 0, 0, 0, 0, 0⟩, ?_⟩
  decide +kernel

/-- A stage-triggered dose 2 or 3 (`NDOYk < 10`) is applied at most once per rotation entry over any sequence of
days, provided the crop has a development stage on every day on which the entry is sown (`HasStage`: what
`PhytoOut` establishes on the sowing day for every entry it is called for). -/
theorem C16_autofert_stage_dose_at_most_once_partial (ds : List (In ℚ)) (zeit : Nat) (s : St ℚ)
    (hi : HasStage zeit ds) :
    (s.ndoy2 < 10 → fired .min2 (run zeit ds s).2 ≤ 1) ∧ (s.ndoy3 < 10 → fired .min3 (run zeit ds s).2 ≤ 1) :=
  ⟨fun h => doseK_stage_once doseK2 ds zeit s h hi, fun h => doseK_stage_once doseK3 ds zeit s h hi⟩

/-- Without that: after firing the code re-arms with `NDOYk := 0`, which equals the stage number 0 of "no crop";
a sown entry whose stage stays 0 gets the dose on every day.  In whole runs only the reader's placeholder entry
behind the last rotation entry reaches that state (force-sown at the end of its window, no latest harvest date, never
handed to `PhytoOut`; its `NDEMk` are 0, so the doses are 0 kg N/ha): no rotation entry does. -/
theorem C16_autofert_stage_dose_at_most_once_fails_at :
    ∃ (ds : List (In ℚ)) (s : St ℚ), s.ndoy2 < 10 ∧ fired .min2 (run 100 ds s).2 = 3 := by
  let r : Row ℚ := ⟨false, .other, 0, 0, 0, 0, 0, 0, 0, 0⟩
  let d : In ℚ := ⟨0, 120, 0, 0, 1, 100, 0, r, r, [], 0, 0, 0, 0, 0, 0, 0, 0⟩
  refine ⟨[d, d, d], ⟨0, 0, 0, 0, 0, 0, 0, 0, 0, 0, 0, 0, 0, 0⟩, by decide, ?_⟩
  decide +kernel

/-- A day-of-year dose 2 or 3 (`NDOYk ≥ 10`) is applied at most once in a calendar year (it is not re-armed: an
entry standing over two years gets it in each). -/
theorem C16_autofert_doy_dose_once_per_year (ds : List (In ℚ)) (zeit t : Nat) (s : St ℚ) (ht : TagsAscend t ds) :
    (10 ≤ s.ndoy2 → fired .min2 (run zeit ds s).2 ≤ 1) ∧ (10 ≤ s.ndoy3 → fired .min3 (run zeit ds s).2 ≤ 1) :=
  ⟨fun h => doseK_doy_once doseK2 ds zeit t s h ht, fun h => doseK_doy_once doseK3 ds zeit t s h ht⟩

/-- A day-of-year dose 2 or 3 is applied exactly on the configured day of the year, from the sowing day on. -/
theorem C16_autofert_doy_dose_on_its_day (i : In ℚ) (s : St ℚ) (a : App ℚ) (ha : a ∈ (step i s).2) :
    (a.kind = Kind.min2 → 10 ≤ s.ndoy2 → i.tag = s.ndoy2 ∧ 0 < i.saat ∧ i.saat ≤ i.zeit) ∧
    (a.kind = Kind.min3 → 10 ≤ s.ndoy3 → i.tag = s.ndoy3 ∧ 0 < i.saat ∧ i.saat ≤ i.zeit) := by
  have := ((mem_step i s a).mp ha).1
  constructor <;> intro hk h10 <;> rw [hk] at this
  · exact doseK_doy_day doseK2 this h10
  · exact doseK_doy_day doseK3 this h10

/-- The "S" application of a rotation entry is made at most once. -/
theorem C16_autofert_orgS_at_most_once (ds : List (In ℚ)) (zeit sa : Nat) (s : St ℚ) (h : Stable sa ds) :
    fired .orgS (run zeit ds s).2 ≤ 1 := by
  refine fired_le_one .orgS (fun _ ds _ => ∃ sa, Stable sa ds) ?_ ds zeit s ⟨sa, h⟩
  rintro zeit d ds s ⟨sa, hst⟩
  refine ⟨fun _ => ⟨d.saat, hst.2⟩, fun hf => ?_⟩
  simp only [flag, firesS, trigS, Bool.and_eq_true, decide_eq_true_eq] at hf
  obtain ⟨hg, -, hz⟩ := hf
  refine orgS_passed ds _ _ ?_ (Behind.of_sown hg hst)
  rw [step_ztdg, hg, if_pos rfl, ← hz]
  exact Nat.lt_succ_self _

/-- It is made for an entry with organic fertiliser and time code "S" only, from the sowing day on, on the day
`ZTDG` of the entry; on the sowing day `ZTDG` is set to sowing day + ORGDOY first. -/
theorem C16_autofert_orgS_day (i : In ℚ) (s : St ℚ) (h : flag .orgS i s = true) :
    i.cur.odu = true ∧ i.cur.orgtime = OrgTime.S ∧ i.zeit = (step i s).1.ztdg ∧
    (i.zeit = i.saat → (step i s).1.ztdg = i.saat + i.cur.orgdoy) := by
  simp only [flag, firesS, trigS, condS, Bool.and_eq_true, decide_eq_true_eq] at h
  obtain ⟨hg, ⟨ho, hp⟩, hz⟩ := h
  refine ⟨ho, hp, ?_, ?_⟩
  · rw [step_ztdg, hg]; simpa using hz
  · intro he
    rw [step_ztdg, hg]
    simp [ztdgS, condS, ho, hp, he]

/-- The time code that decides is the one of the entry being sown (nitro.go:92 after the fix): the "S" application
is made exactly for an entry with organic fertiliser and time code "S", sown, on its day — whatever the previous
entry carries. -/
theorem C16_autofert_orgS_time_code (i : In ℚ) (s : St ℚ) :
    flag .orgS i s = true ↔
      (i.cur.odu = true ∧ i.cur.orgtime = OrgTime.S ∧ 0 < i.saat ∧ i.saat ≤ i.zeit ∧ i.zeit = ztdgS i s.ztdg) := by
  simp only [flag, firesS, sown, trigS, condS, Bool.and_eq_true, decide_eq_true_eq]
  constructor
  · rintro ⟨⟨a, b⟩, ⟨c, d⟩, e⟩; exact ⟨c, d, a, b, e⟩
  · rintro ⟨c, d, a, b, e⟩; exact ⟨⟨a, b⟩, ⟨c, d⟩, e⟩

/-- An entry whose time code is not "S" (after harvest, or no organic fertiliser) never gets the application at
sowing, over any days: the fertiliser of an "H" entry is applied once, by the "H" branch of the next entry. -/
theorem C16_autofert_orgS_only_for_code_S (ds : List (In ℚ)) (zeit : Nat) (s : St ℚ)
    (h : ∀ d ∈ ds, d.cur.orgtime ≠ OrgTime.S) : fired .orgS (run zeit ds s).2 = 0 := by
  refine fired_eq_zero .orgS (fun _ ds _ => ∀ d ∈ ds, d.cur.orgtime ≠ OrgTime.S) ?_ ds zeit s h
  intro zeit d ds s h
  obtain ⟨hd, h'⟩ := List.forall_mem_cons.mp h
  exact ⟨by simp [flag, firesS, trigS, condS, hd], h'⟩

/-- Exactly once: an entry with organic fertiliser and time code "S", sown on the first day of the list, gets the
application exactly once when the list reaches sowing day + ORGDOY — whatever time code the previous entry has. -/
theorem C16_autofert_orgS_exactly_once (d : In ℚ) (ds : List (In ℚ)) (zeit : Nat) (s : St ℚ)
    (ho : d.cur.odu = true) (hc : d.cur.orgtime = OrgTime.S) (hs : d.saat = zeit) (hz : 0 < zeit)
    (hst : Stable 0 (d :: ds)) (hsame : ∀ x ∈ ds, x.cur = d.cur) (hlen : d.cur.orgdoy ≤ ds.length) :
    fired .orgS (run zeit (d :: ds) s).2 = 1 := by
  have hg : sown { d with zeit := zeit } = true := (sown_iff _).mpr ⟨(by omega : 0 < d.saat), (by omega : d.saat ≤ zeit)⟩
  have hzs : ztdgS { d with zeit := zeit } s.ztdg = zeit + d.cur.orgdoy := by simp [ztdgS, condS, ho, hc, hs]
  have hf : flag .orgS { d with zeit := zeit } s = decide (d.cur.orgdoy = 0) := by
    simp only [flag, firesS, trigS, condS, hg, hzs, ho, hc]; simp
  have hn : (step { d with zeit := zeit } s).1.ztdg = zeit + d.cur.orgdoy := by rw [step_ztdg, hg]; simp [hzs]
  rw [fired_run_cons, hf, orgS_pending ds (zeit + 1) _ d.cur _ ho hc hn (Behind.of_sown hg hst) hsame]
  by_cases h0 : d.cur.orgdoy = 0
  · -- ORGDOY = 0: the call of the sowing day applies, no later one
    rw [decide_eq_true h0, if_neg (by omega)]; rfl
  · rw [decide_eq_false h0, if_pos (by omega)]; rfl

/-! regression examples for the repair of nitro.go:92: the inputs on which the time code of the previous entry decided -/

/-- entry with code "S" behind an entry without organic fertiliser — the application is made, once, five days after
sowing -/
example :
    let cur : Row ℚ := ⟨true, .S, 5, 20, 30, 10, 1, 100, 0, 0⟩
    let prev : Row ℚ := ⟨false, .other, 0, 0, 0, 0, 0, 0, 0, 0⟩
    let d : In ℚ := ⟨0, 120, 1, 1, 1, 200, 0, cur, prev, [], 0, 0, 0, 0, 0, 0, 0, 0⟩
    fired .orgS (run 200 [d, d, d, d, d, d, d] ⟨400, 400, 400, 0, 0, 0, 0, 0, 0, 0, 0, 0, 0, 0⟩).2 = 1 := by
  decide +kernel

/-- entry with code "H" behind an entry with code "S" — no application at sowing -/
example :
    let cur : Row ℚ := ⟨true, .H, 0, 20, 30, 10, 1, 100, 0, 0⟩
    let prev : Row ℚ := ⟨true, .S, 0, 0, 0, 0, 2, 0, 0, 0⟩
    let i : In ℚ := ⟨200, 120, 1, 1, 2, 200, 0, cur, prev, [], 0, 0, 0, 0, 0, 0, 0, 0⟩
    flag .orgS i ⟨0, 0, 0, 0, 0, 0, 0, 0, 0, 0, 0, 0, 0, 0⟩ = false := by
  decide

/-- For a rotation entry behind the pre-crop the amounts are the split of FERTILIZ.TXT applied to the amount column:
none of them negative and together the total N of the fertiliser, for table fractions in [0, 1] with
`Nfst + Nslo = 1`. -/
theorem C16_autofert_reader_amounts (dgmg : ℚ) (t : Schedule.FertRow ℚ) (resid : ℚ × ℚ × ℚ)
    (hq : 0 ≤ dgmg) (hn : 0 ≤ t.ntot) (hd : 0 ≤ t.ndir ∧ t.ndir ≤ 1) (hf : 0 ≤ t.nfst) (hs : 0 ≤ t.nslo)
    (h4 : 0 ≤ t.nh4 ∧ t.nh4 ≤ 1) (hl : 0 ≤ t.loss ∧ t.loss ≤ 1) :
    let r := orgAmounts false true dgmg (some t) resid
    0 ≤ r.1 ∧ 0 ≤ r.2.1 ∧ 0 ≤ r.2.2 ∧ (t.nfst + t.nslo = 1 → r.1 + r.2.1 + r.2.2 ≤ dgmg * t.ntot) := by
  have hN : 0 ≤ dgmg * 1 * t.ntot := by rw [mul_one]; exact mul_nonneg hq hn
  obtain ⟨h0, h1, h2⟩ := Schedule.dueng_nonneg dgmg 1 t hN hd hf hs h4 hl
  refine ⟨h1, h2, h0, fun h => le_of_eq ?_⟩
  have := Schedule.C10_fertiliser_total_conserved dgmg 1 t h
  rw [mul_one] at this
  rw [← this]
  show (Schedule.dueng dgmg 1 t).nsas + (Schedule.dueng dgmg 1 t).nlas + (Schedule.dueng dgmg 1 t).ndir = _
  ring

/-- Known finding: the pre-crop (first entry of the field) — the reader calls `dueng` with the one-based index
(input.go:562) and `residi` (input.go:701) then fills the cells with the harvest residues: the organic fertiliser
configured for the pre-crop never reaches the amounts; the "H" application of the first crop applies the residues
under the fertiliser's name. -/
theorem C16_autofert_reader_precrop_fails_at :
    ∃ (dgmg : ℚ) (t : Schedule.FertRow ℚ) (resid : ℚ × ℚ × ℚ),
      orgAmounts true true dgmg (some t) resid ≠ orgAmounts false true dgmg (some t) resid := by
  refine ⟨200, ⟨6 / 10, 15 / 100, 2 / 10, 8 / 10, 1, 4 / 10⟩, (5, 17, 0), ?_⟩
  decide +kernel

example : ndoyOfField "S3 ".toList = some 3 ∧ ndoyOfField "S0 ".toList = some 0 ∧ ndoyOfField "59 ".toList = some 59 ∧
    ndoyOfField "060".toList = some 60 ∧ ndoyOfField "0  ".toList = some 0 ∧ ndoyOfField "   ".toList = none := by decide
example : orgTimeOfRow true 'H' = .H ∧ orgTimeOfRow true 'S' = .S ∧ orgTimeOfRow false 'H' = .other := by decide
example : autoN (120 : ℚ) (nminTop 3 10 [20, 15, 99]) = 75 := by decide +kernel
/-- `Stable`, `TagsAscend` and "the crop has a stage" are satisfiable by a non-trivial list of days: unsown, then
sown on day 101 -/
example : ∃ ds : List (In ℚ), ds.length = 3 ∧ Stable 0 ds ∧ TagsAscend 120 ds ∧ (∀ d ∈ ds, d.intwick ≠ 0) := by
  let r : Row ℚ := ⟨false, .other, 0, 0, 0, 0, 0, 50, 0, 0⟩
  let d (saat tag : Nat) : In ℚ := ⟨0, tag, 1, 1, 1, saat, 0, r, r, [], 0, 0, 0, 0, 0, 0, 0, 0⟩
  refine ⟨[d 0 120, d 101 121, d 101 122], rfl, ?_, ?_, ?_⟩
  · simp [Stable, d]
  · simp [TagsAscend, d]
  · intro x hx; simp at hx; rcases hx with rfl | rfl | rfl <;> simp [d]
example : HasStage 100 ([⟨0, 120, 0, 0, 1, 0, 0, ⟨false, .other, 0, 0, 0, 0, 0, 0, 0, 0⟩, ⟨false, .other, 0, 0, 0, 0, 0, 0, 0, 0⟩, [], 0, 0, 0, 0, 0, 0, 0, 0⟩,
    ⟨0, 121, 1, 1, 1, 101, 0, ⟨false, .other, 0, 0, 0, 0, 0, 0, 0, 0⟩, ⟨false, .other, 0, 0, 0, 0, 0, 0, 0, 0⟩, [], 0, 0, 0, 0, 0, 0, 0, 0⟩] : List (In ℚ)) := by
  simp [HasStage]

end Hermes.AutoFert
