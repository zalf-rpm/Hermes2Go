/-
C09, vernalisation, stated about the *translation of the current source* of `vern` (hermes/crop.go →
`HermesModel/Generated/Impvern.lean`, regenerated on every run by the translator (DESIGN §4.3); executed against the compiled function by the
srcimp stage of C09).  `vern_refines` (HermesProofs/ImpVern.lean) shows that the translation computes the hand-written model
`Crop.vern`; the statements of C09 about the vernalisation factor are restated here about the source.
-/
import HermesProofs.ImpVern
import HermesProofs.Crop

namespace Hermes.Generated.Imp.vern
open Hermes.Imp

/-- **The source of `vern` refines the model** the C09 theorems are about: accumulated vernalisation days and the factor FV. -/
theorem C09_source_vern_refines_model (m : MathFns ℚ) (s : St ℚ) (hm : MinOK m) :
    (run m s).g_VERNTAGE = (Hermes.Crop.vern s.g_VERNTAGE (rd s.g_VSCHWELL s.g_INTWICK_Index) (rd s.g_TEMP s.g_TAG_Index) s.g_DT_Num).1 ∧
    (run m s).l_FV = (Hermes.Crop.vern s.g_VERNTAGE (rd s.g_VSCHWELL s.g_INTWICK_Index) (rd s.g_TEMP s.g_TAG_Index) s.g_DT_Num).2 :=
  vern_refines m s hm

/-- **The vernalisation factor lies in [0,1]** for every temperature, every requirement and every history (source level). -/
theorem C09_source_vern_factor_unit (m : MathFns ℚ) (s : St ℚ) (hm : MinOK m) :
    0 ≤ (run m s).l_FV ∧ (run m s).l_FV ≤ 1 := by
  rw [(vern_refines m s hm).2]
  exact Hermes.Crop.vern_unit _ _ _ _

/-- **Vernalisation never runs backwards** (source level): with a non-negative time step the accumulated vernalisation days do
not decrease, whatever the day's temperature. -/
theorem C09_source_vern_days_monotone (m : MathFns ℚ) (s : St ℚ) (hm : MinOK m) (hdt : 0 ≤ s.g_DT_Num) :
    s.g_VERNTAGE ≤ (run m s).g_VERNTAGE := by
  rw [(vern_refines m s hm).1]
  unfold Hermes.Crop.vern
  simp only [apply_ite Prod.fst, ite_self]
  exact le_add_of_nonneg_right (mul_nonneg (Hermes.Crop.vernEff_nonneg _) hdt)

def demoState : St ℚ :=
  { v_veff := 0, g_TEMP := [5], g_TAG_Index := 0, g_VERNTAGE := 20, g_DT_Num := 1, v_verschwell := 0, g_VSCHWELL := [45], g_INTWICK_Index := 0, l_FV := 0 }

def demoMath : MathFns ℚ where
  exp := id
  log := id
  pow := fun x _ => x
  mod := fun x _ => x
  sqrt := id
  sin := id
  cos := id
  tan := id
  asin := id
  acos := id
  atan := id
  abs := id
  max := fun a b => if a < b then b else a
  min := fun a b => Hermes.Crop.fmin a b
  round := id
  floor := id
  ceil := id
  ofInt := fun i => (i : ℚ)
  toInt := fun _ => 0

example : MinOK demoMath := fun _ _ => rfl
-- 5 °C, requirement 45 days, 20 days accumulated: effectiveness 0.9, FV = (20.9 − 8)/(45 − 8)
example : (run demoMath demoState).g_VERNTAGE = 209 / 10 ∧ (run demoMath demoState).l_FV = 129 / 370 := by
  decide +kernel

end Hermes.Generated.Imp.vern
