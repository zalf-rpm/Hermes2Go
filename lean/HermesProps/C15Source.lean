/-
C15, field capacity under a groundwater table, stated about the *translation of the current source* of `setFieldCapacityWithGW`
(hermes/init.go, the translator of DESIGN §4.3; executed against the compiled function by the srcimp stage of C15).
-/
import HermesProofs.ImpSetFC
import HermesProofs.PlantArith

namespace Hermes.Generated.Imp.setFieldCapacityWithGW
open Hermes.Imp

/-- **Field capacity stays at or below the pore volume, and is never lowered, when the groundwater table is applied** (source level):
for every groundwater level with `int(GRW+1) ≥ 1` and `math.Mod(GRW+1, 1) ∈ [0,1]` (named hypotheses about Go's conversions), any
number of layers inside the arrays, and field capacities that start at or below the pore volumes. -/
theorem C15_source_setfc_bounds (m : MathFns ℚ) (s : St ℚ) (hm : ModOK m s) (hf : FirstOK m s) (hN : s.g_N.toNat ≤ s.g_W.length)
    (hw : ∀ j : Int, rd s.g_W j ≤ rd s.g_PORGES j) (j : Int) :
    rd s.g_W j ≤ rd (run m s).g_W j ∧ rd (run m s).g_W j ≤ rd s.g_PORGES j := by
  unfold FirstOK at hf
  rw [run_eq_fill]
  show rd s.g_W j ≤ rd (fill _ _ _ _) j ∧ rd (fill _ _ _ _) j ≤ rd s.g_PORGES j
  rcases Nat.eq_zero_or_pos (s.g_N + 1 - m.toInt (s.g_GRW + 1.0)).toNat with h0 | h0
  · rw [h0]; exact ⟨le_refl _, hw j⟩
  · rw [rd_fill _ _ _ _ (by omega) (by omega)]
    split_ifs
    · unfold newW
      split_ifs
      · have := mix_between (hw j) hm.1 hm.2
        rwa [← lit1] at this
      · exact ⟨hw j, le_refl _⟩
    · exact ⟨le_refl _, hw j⟩

/-- the wilting point ordering survives: a lower bound of the old field capacity is a lower bound of the new one -/
theorem C15_source_setfc_keeps_lower_bounds (m : MathFns ℚ) (s : St ℚ) (hm : ModOK m s) (hf : FirstOK m s) (hN : s.g_N.toNat ≤ s.g_W.length)
    (hw : ∀ j : Int, rd s.g_W j ≤ rd s.g_PORGES j) (j : Int) (wmin : ℚ) (h : wmin ≤ rd s.g_W j) : wmin ≤ rd (run m s).g_W j :=
  le_trans h (C15_source_setfc_bounds m s hm hf hN hw j).1

def demoMath : MathFns ℚ where
  exp := id
  log := id
  pow := fun x _ => x
  mod := fun _ _ => 1 / 2
  sqrt := id
  sin := id
  cos := id
  tan := id
  asin := id
  acos := id
  atan := id
  abs := id
  max := fun x _ => x
  min := fun x _ => x
  round := id
  floor := id
  ceil := id
  ofInt := fun i => (i : ℚ)
  toInt := fun _ => 2

def demoState : St ℚ := { g_GRW := 3 / 2, g_N := 3, g_W := [3 / 10, 3 / 10, 3 / 10], g_PORGES := [4 / 10, 4 / 10, 4 / 10] }

example : ModOK demoMath demoState ∧ FirstOK demoMath demoState := by
  unfold ModOK FirstOK demoMath; norm_num
-- table at 1.5 dm in a three-layer profile: layer 2 becomes the mean of its field capacity and pore volume, layer 3 the pore volume
example : (run demoMath demoState).g_W = [3 / 10, 7 / 20, 4 / 10] := by
  decide +kernel

end Hermes.Generated.Imp.setFieldCapacityWithGW
