/-
C19 — Soil temperature stays within the envelope of its boundary temperatures; the explicit
heat-diffusion scheme never oscillates or overshoots for any admissible bulk density, humus and water
content.
Model: HermesModel/SoilTemp.lean (one call of `Soiltemp`, hermes/soiltemp.go:8-69); exact arithmetic over ℚ, every
number of layers and of days; round-off is measured by the search stage.  Reading (the rest is in DESIGN §6 C19):
"envelope" = every interval [lo, hi] that contains the initial profile, every surface value imposed so far and TBASE;
"never oscillates or overshoots" = the update weights `1−2r, r, r` are non-negative (`0 ≤ r ≤ 1/2`), which makes the
day map order preserving; of water content and humus only `0 ≤ WG`, `0 ≤ HUMUS` are needed, the exponential factor
`exp(−50·(WG/BD)^1.5)` is an input in (0, 1].
"Admissible bulk density" (`AdmLayer`) = [1.7/3 ≈ 0.567, 2.3] g/cm³, which contains the five class densities
(soil.go:307-321).  The lower limit is forced: below it the conductivity of soiltemp.go:47 is negative and the scheme
amplifies.  Measured peat densities (0.1 … 0.5 g/cm³) lie there, so the property FAILS on the code (finding F18,
`C19_envelope_fails_at_low_density`) and the theorems that hold carry the density range as a hypothesis.  The upper
limit excludes no soil: 2.3 g/cm³ leaves a pore space of 1 − 2.3/2.65 = 13 % by the code's own formula (soil.go:341).
-/
import HermesProofs.SoilTemp
namespace Hermes.SoilTemp

/-- If the diffusion number `r = alpha·DT/24/DZ²` of a node lies in [0, 1/2],
its new value lies between the smallest and the largest old value of the node and its two
neighbours (stencil of soiltemp.go:54: one `alpha` per node, no averaging of conductivities). -/
theorem C19_substep_convex (a dt dz2 tm t tp : ℚ)
    (hr0 : 0 ≤ diffNum a dt dz2) (hr1 : diffNum a dt dz2 ≤ 1 / 2) :
    min tm (min t tp) ≤ node a dt dz2 tm t tp ∧ node a dt dz2 tm t tp ≤ max tm (max t tp) :=
  hull3 fun _ _ => node_convex ⟨hr0, hr1⟩

/-- **The bound 1/2 is sharp, and so is 0**: for every diffusion number outside [0, 1/2] the update
of the profile (0, 1, 0) leaves [0, 1] — below 0 for r > 1/2 (sign change: oscillation), above 1 for
r < 0 (negative conductivity: growth). -/
theorem C19_stability_bound_sharp (a dt dz2 : ℚ) :
    (1 / 2 < diffNum a dt dz2 → node a dt dz2 0 1 0 < 0) ∧
    (diffNum a dt dz2 < 0 → 1 < node a dt dz2 0 1 0) := by
  rw [node_eq]
  constructor <;> intro h <;> linarith

/-- **One sub-step keeps the envelope** (any number of nodes): old profile, today's surface value
and the base temperature inside [lo, hi] ⇒ new profile inside [lo, hi]. -/
theorem C19_substep_envelope (dt dz2 surf tbase lo hi : ℚ) (as ts : List ℚ) (hst : Stable dt dz2 as)
    (hs : lo ≤ surf ∧ surf ≤ hi) (hb : lo ≤ tbase ∧ tbase ≤ hi) (hw : Within lo hi ts) :
    Within lo hi (surf :: (interiorOf dt dz2 as ts ++ [tbase])) :=
  within_iff.mpr (steps_rel (respects_within hst lo hi) hs hb 1 0 (within_iff.mp hw)
    (sums := []) (sums' := []) .nil).1

/-- **Discrete maximum principle for a whole day** (24 sub-steps, daily mean, any number of layers):
every `TD` value lies in any interval that contains the profile at the start of the day (with
yesterday's surface value, which the first sub-step still reads), today's surface value and TBASE. -/
theorem C19_day_envelope (i : DayIn ℚ) (tsoil : List ℚ) (lo hi : ℚ)
    (hst : Stable i.dt (i.dz * i.dz) (alphas i))
    (hb : lo ≤ i.tbase ∧ i.tbase ≤ hi) (hw : Within lo hi tsoil)
    (hs : lo ≤ (day i tsoil).surf ∧ (day i tsoil).surf ≤ hi) :
    Within lo hi (day i tsoil).td :=
  day_within i tsoil lo hi hst hb.1 hb.2 hw hs.1 hs.2

/-- **Envelope over the whole history** (induction over the days): all layer temperatures of all
days stay within any interval containing the initial profile, every surface value imposed so far and
the base temperature. -/
theorem C19_history_envelope (lo hi : ℚ) (days : List (DayIn ℚ)) (tsoil : List ℚ)
    (hw : Within lo hi tsoil)
    (hd : ∀ d ∈ days, Stable d.dt (d.dz * d.dz) (alphas d) ∧ lo ≤ d.tbase ∧ d.tbase ≤ hi)
    (hs : ∀ s ∈ surfaces days tsoil, lo ≤ s ∧ s ≤ hi) :
    ∀ td ∈ run days tsoil, Within lo hi td := by
  fun_induction run days tsoil with
  | case1 => exact fun td htd => nomatch htd
  | case2 i rest tsoil ih =>
    obtain ⟨hst, hb⟩ := hd i (by simp)
    have h1 := C19_day_envelope i tsoil lo hi hst hb hw (hs (day i tsoil).surf (by simp [surfaces]))
    exact List.forall_mem_cons.mpr ⟨h1, ih h1 (fun d hdm => hd d (List.mem_cons_of_mem _ hdm))
      fun s hsm => hs s (by simp only [surfaces]; exact List.mem_cons_of_mem _ hsm)⟩

/-- **Diffusion number of an admissible layer** (DT = 1 d, DZ = 10 cm): `0 ≤ r ≤ 1/2`.  The
exponential factor enters only through `0 < e` (it can only lower the conductivity, since
`11.5 − 5·BD ≥ 0` up to BD = 2.3). -/
theorem C19_r_le_half_partial (l : Layer ℚ) (h : AdmLayer l) :
    0 ≤ diffNum (alpha 1 l) 1 (10 * 10) ∧ diffNum (alpha 1 l) 1 (10 * 10) ≤ 1 / 2 :=
  diffNum_le h (by linarith [h.2.1])

/-- for the five class densities the diffusion number is at most 5/12, whatever the water content -/
theorem C19_r_class_densities (l : Layer ℚ) (h : AdmLayer l) (hc : l.bd ∈ [(1.1 : ℚ), 1.3, 1.5, 1.7, 1.85]) :
    diffNum (alpha 1 l) 1 (10 * 10) ≤ 5 / 12 := by
  -- the bound `(3·BD − 1.7)/(5·BD)` grows with the density; 1.85 is the densest class
  have hbd : l.bd ≤ 1.85 := by
    simp only [List.mem_cons, List.mem_nil_iff, or_false] at hc
    rcases hc with h | h | h | h | h <;> rw [h] <;> norm_num
  exact (diffNum_le h (by linarith)).2

/-- **Surface formula**: a convex combination of TMIN, TMAX and yesterday's surface value while the
radiation coefficient `sq = sqrt(0.0003·radiat)` is at most 1 (i.e. `0.0003·radiat ≤ 1`). -/
theorem C19_surface_in_air_range (radiat sq tmin tmax told : ℚ)
    (h0 : 0 ≤ sq) (hsq : sq * sq = 0.0003 * radiat) (hr : 0.0003 * radiat ≤ 1) :
    min tmin (min tmax told) ≤ surface radiat sq tmin tmax told ∧
      surface radiat sq tmin tmax told ≤ max tmin (max tmax told) :=
  hull3 fun _ _ => surface_within fun _ => ⟨h0, by nlinarith⟩

/-- **The radiation overshoot**: for `sq ≥ 1` (and TMIN ≤ TMAX) the surface value exceeds the hull of
TMAX and yesterday's value by at most `0.69·(TMAX−TMIN)·(sq−1)`, and never undershoots. -/
theorem C19_surface_overshoot (radiat sq tmin tmax told : ℚ) (h : 833 < radiat) (hsq : 1 ≤ sq)
    (hmm : tmin ≤ tmax) :
    min tmin told ≤ surface radiat sq tmin tmax told ∧
      surface radiat sq tmin tmax told ≤ max tmax told + (1 - 0.31) * ((tmax - tmin) * (sq - 1)) := by
  rw [surface_overshoot_eq radiat sq tmin tmax told h]
  have h5 : 0 ≤ (tmax - tmin) * (sq - 1) := mul_nonneg (by linarith) (by linarith)
  generalize (tmax - tmin) * (sq - 1) = p at h5 ⊢
  constructor
  · linarith [min_le_left tmin told, min_le_right tmin told]
  · linarith [le_max_left tmax told, le_max_right tmax told]

/-- **A day of the simulator with admissible layers** (DT = 1, DZ = 10): the maximum principle holds
without any hypothesis on the diffusion numbers. -/
theorem C19_day_envelope_admissible_partial (i : DayIn ℚ) (hadm : AdmDay i) (tsoil : List ℚ) (lo hi : ℚ)
    (hb : lo ≤ i.tbase ∧ i.tbase ≤ hi) (hw : Within lo hi tsoil)
    (hs : lo ≤ (day i tsoil).surf ∧ (day i tsoil).surf ≤ hi) :
    Within lo hi (day i tsoil).td :=
  C19_day_envelope i tsoil lo hi (admDay_stable i hadm) hb hw hs

/-- **The property on inputs only**: for every run of days with admissible layers and no radiation
overshoot, every layer temperature of every day lies in any interval that contains the initial
profile, the base temperature and the daily air-temperature extremes. -/
theorem C19_history_envelope_admissible_partial (lo hi : ℚ) (days : List (DayIn ℚ)) (tsoil : List ℚ)
    (hne : tsoil ≠ []) (hw : Within lo hi tsoil)
    (hd : ∀ d ∈ days, AdmDay d ∧ AirDay lo hi d) :
    ∀ td ∈ run days tsoil, Within lo hi td := by
  fun_induction run days tsoil with
  | case1 => exact fun td htd => nomatch htd
  | case2 i rest tsoil ih =>
    obtain ⟨hadm, hair⟩ := hd i (by simp)
    have h1 := C19_day_envelope i tsoil lo hi (admDay_stable i hadm) ⟨hair.1, hair.2.1⟩ hw
      (day_surf_within hair hne hw)
    -- tomorrow's start profile `surf :: …` is not empty
    exact List.forall_mem_cons.mpr ⟨h1, ih (List.cons_ne_nil _ _) h1
      fun d hdm => hd d (List.mem_cons_of_mem _ hdm)⟩

/-- **No oscillation: the day map is order preserving** (comparison principle).  For the same layers
with diffusion numbers in [0, 1/2]: a start profile, surface value and base temperature that are
nowhere colder give `TD` values that are nowhere colder (`LeL` = pointwise `≤` of equally long lists,
characterised by `leL_nil`, `leL_cons`).  A monotone linear scheme cannot turn a smooth change of
its inputs into sign-alternating responses. -/
theorem C19_day_monotone (i i' : DayIn ℚ) (hl : i'.layers = i.layers) (hdt : i'.dt = i.dt)
    (hdz : i'.dz = i.dz) (hst : Stable i.dt (i.dz * i.dz) (alphas i)) (hb : i.tbase ≤ i'.tbase)
    (ts ts' : List ℚ) (h : LeL ts ts') (hs : (day i ts).surf ≤ (day i' ts').surf) :
    LeL (day i ts).td (day i' ts').td :=
  leL_iff.mpr (day_td_rel hl hdt hdz (respects_le hst) hb (leL_iff.mp h) hs)

/-- the surface formula is monotone in TMIN, TMAX and yesterday's surface value while the radiation
coefficient is in [0, 1] -/
theorem C19_surface_monotone (radiat sq tmin tmax told tmin' tmax' told' : ℚ)
    (hsq : 833 < radiat → 0 ≤ sq ∧ sq ≤ 1) (h1 : tmin ≤ tmin') (h2 : tmax ≤ tmax') (h3 : told ≤ told') :
    surface radiat sq tmin tmax told ≤ surface radiat sq tmin' tmax' told' :=
  surface_mono hsq h1 h2 h3

/-- a peat layer with a measured density: BD 0.3 g/cm³, water content 0.5, humus fraction 0.2 -/
def peat : Layer ℚ := { bd := 0.3, wg := 0.5, hum := 0.2, e := 0.001 }

/-- two such layers, no radiation term (LAI ≥ 3), air and base temperature 0 °C -/
def peatDay : DayIn ℚ :=
  { lai := 3, expNegLai := 0.05, rad := 0, eta := 0, temp := 0, tmin := 0, tmax := 0, sq := 0,
    tbase := 0, dt := 1, dz := 10, layers := [peat, peat] }

/-- **The envelope fails for a measured peat density.**  Profile (0, 1, 0) °C, surface value and base
temperature 0 °C: the daily mean of the middle node exceeds 1 °C, the maximum of everything imposed —
the conductivity of soiltemp.go:47 is negative for BD < 0.567 and the scheme amplifies. -/
theorem C19_envelope_fails_at_low_density :
    (day peatDay [0, 1, 0]).surf = 0 ∧ ∃ x ∈ (day peatDay [0, 1, 0]).td, (1 : ℚ) < x := by
  have hr : diffNum (alpha 1 peat) 1 (10 * 10) < 0 := by decide +kernel
  obtain ⟨y', s', e, b⟩ := steps_single_growth 1 (10 * 10) (alpha 1 peat) (alpha 1 peat) hr.le 24 1 0 zero_le_one
  have hsurf : surfOf peatDay 0 = 0 := by decide +kernel
  have hst : daySteps peatDay 0 [0, 1, 0] = ([0, y', 0], [s']) := by
    simp only [daySteps, peatDay, setLast, List.map, List.drop]
    exact e
  refine ⟨by simp only [day]; exact hsurf, s' / 24, ?_, ?_⟩
  · simp only [day, hsurf, hst, tdOf]
    simp
  · rw [lt_div_iff₀ (by norm_num)]
    push_cast at b
    linarith

/-- the peat layer is not admissible (so the theorems above do not apply), only because of its density -/
theorem C19_peat_not_admissible : ¬ AdmLayer peat ∧ 0 ≤ peat.wg ∧ 0 ≤ peat.hum ∧ 0 < peat.e ∧ peat.e ≤ 1 := by
  refine ⟨fun h => absurd h.1 (by norm_num [peat]), ?_, ?_, ?_, ?_⟩ <;> norm_num [peat]

/-- a loamy layer of class density 1.5 at 25 vol-% water -/
def loam : Layer ℚ := { bd := 1.5, wg := 0.25, hum := 0.02, e := 0.03 }

example : AdmLayer loam := by unfold AdmLayer; decide +kernel

/-- a summer day with radiation above the threshold (radiat = 1800·(1 − scov) − … > 833) -/
def summerDay : DayIn ℚ :=
  { lai := 0.5, expNegLai := 0.6, rad := 12, eta := 0.2, temp := 18, tmin := 11, tmax := 26, sq := 0.6,
    tbase := 8.7, dt := 1, dz := 10, layers := [loam, loam, { loam with bd := 1.85, wg := 0.3 }] }

theorem summerDay_adm : AdmDay summerDay := by unfold AdmDay AdmLayer; decide +kernel

example : AdmDay summerDay := summerDay_adm

example : AirDay 5 30 summerDay := by unfold AirDay; decide +kernel

example : Within 5 30 [14, 12, 10, 8.7] := by unfold Within; decide +kernel

example : Stable summerDay.dt (summerDay.dz * summerDay.dz) (alphas summerDay) :=
  admDay_stable summerDay summerDay_adm

example : LeL [14, 12, 10, 8.7] [15, 12, 11, 8.7] := by
  refine leL_cons.mpr ⟨by norm_num, leL_cons.mpr ⟨by norm_num, leL_cons.mpr ⟨by norm_num, leL_cons.mpr ⟨by norm_num, leL_nil⟩⟩⟩⟩

/-- the hypotheses of `C19_surface_in_air_range` are satisfiable with the radiation branch taken -/
example : (0 : ℚ) ≤ 0.9 ∧ (0.9 : ℚ) * 0.9 = 0.0003 * 2700 ∧ (0.0003 : ℚ) * 2700 ≤ 1 ∧ (833 : ℚ) < 2700 := by
  norm_num

/-- a layer denser than 2.3 g/cm³ whose diffusion number exceeds 1/2 (outside `AdmLayer`): the
hypothesis of `C19_stability_bound_sharp` is met by the code's own formulas -/
example : (1 / 2 : ℚ) < diffNum (alpha 1 ({ bd := 2.5, wg := 0.02, hum := 0, e := 0.9 } : Layer ℚ)) 1 (10 * 10) := by
  norm_num [diffNum, alpha, heatCond, heatCap]

end Hermes.SoilTemp
