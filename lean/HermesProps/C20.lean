/-
C20 — the groundwater level follows the supplied series.
The model (a transcription of hermes/soil.go:738-765, run.go:379, input.go:68-73) is in HermesModel/GroundWater.lean.
Series theorems: exact arithmetic (ℚ) where a value is computed, any arithmetic where a stored
value is returned.  Sinusoid: ℝ with Mathlib's `Real.sin`.
-/
import HermesProofs.GroundWater
namespace Hermes.GroundWater

/-- On a date of the series the level is the series value of that date (any arithmetic). -/
theorem C20_gw_exact_hit {α : Type} [Add α] [Sub α] [Mul α] [Div α] [OfNat α 0] [Conv α]
    (s : List (Nat × α)) (hs : Ascending s) (d : Nat) (v : α) (hm : (d, v) ∈ s) :
    getLevel s d = some v := by
  simp [getLevel, mapGet_of_mem s hs d v hm]

/-- Between two consecutive dates of a strictly ascending series of day numbers the level is the
linear interpolation of the two neighbours — for every gap length and every position of the pair
in the series — hence it lies between the two values. -/
theorem C20_gw_interpolates (pre post : List (Nat × ℚ)) (p n : Nat) (vp vn : ℚ) (date : Nat)
    (hs : Ascending (pre ++ (p, vp) :: (n, vn) :: post))
    (hpos : PositiveDays (pre ++ (p, vp) :: (n, vn) :: post))
    (h1 : p < date) (h2 : date < n) :
    getLevel (pre ++ (p, vp) :: (n, vn) :: post) date
        = some (vp + (vn - vp) * (((date : ℚ) - p) / ((n : ℚ) - p))) ∧
      min vp vn ≤ vp + (vn - vp) * (((date : ℚ) - p) / ((n : ℚ) - p)) ∧
      vp + (vn - vp) * (((date : ℚ) - p) / ((n : ℚ) - p)) ≤ max vp vn := by
  rw [← interpolate_eq p n date vp vn h1.le (h1.trans h2)]
  obtain ⟨w, w0, w1, e⟩ := interpolate_convex p n date h1 h2
  refine ⟨?_, e vp vn ▸ combo_between w0.le w1.le vp vn⟩
  have h := getLevel_split _ (pre ++ [(p, vp)]) ((n, vn) :: post) date (by simp) hs
    (by simpa using ⟨hpos p (List.mem_map_of_mem (List.mem_append_right _ List.mem_cons_self)), h1⟩) (by simpa using h2)
  simpa using h

/-- Before the first date of the series the level is the first value; after the last date it is
the last value (the nearest given value). -/
theorem C20_gw_clamps_outside {α : Type} [Add α] [Sub α] [Mul α] [Div α] [OfNat α 0] [Conv α] :
    (∀ (d0 : Nat) (v0 : α) (rest : List (Nat × α)) (date : Nat),
        Ascending ((d0, v0) :: rest) → date < d0 → getLevel ((d0, v0) :: rest) date = some v0) ∧
    (∀ (pre : List (Nat × α)) (dl : Nat) (vl : α) (date : Nat),
        Ascending (pre ++ [(dl, vl)]) → PositiveDays (pre ++ [(dl, vl)]) → dl < date →
        getLevel (pre ++ [(dl, vl)]) date = some vl) := by
  constructor
  · intro d0 v0 rest date hs hlt
    have h := getLevel_split _ [] ((d0, v0) :: rest) date rfl hs (by simp) (by simpa using hlt)
    simpa using h
  · intro pre dl vl date hs hpos hlt
    have h := getLevel_split _ (pre ++ [(dl, vl)]) [] date (by simp) hs
      (by simpa using ⟨hpos dl (List.mem_map_of_mem (List.mem_append_right _ List.mem_cons_self)), hlt⟩) (by simp)
    simpa using h

/-- The interpolated level is monotone in each of the two neighbour values. -/
theorem C20_gw_interpolation_monotone (p n date : Nat) (vp vp' vn vn' : ℚ) (h1 : p < date)
    (h2 : date < n) (hp : vp ≤ vp') (hn : vn ≤ vn') :
    interpolate p n date vp vn ≤ interpolate p n date vp' vn' := by
  obtain ⟨w, w0, w1, e⟩ := interpolate_convex p n date h1 h2
  rw [e, e]
  have a := mul_le_mul_of_nonneg_left hp (sub_nonneg.2 w1.le)
  have b := mul_le_mul_of_nonneg_left hn w0.le
  linarith

/-- The interpolation is continuous with the records: evaluated at the two neighbour dates the
formula gives the neighbours' values, which is what the exact hit returns there. -/
theorem C20_gw_interpolation_meets_records (p n : Nat) (vp vn : ℚ) (h : p < n) :
    interpolate p n p vp vn = vp ∧ interpolate p n n vp vn = vn := by
  constructor
  · rw [interpolate_eq p n p vp vn le_rfl h, sub_self, zero_div, mul_zero, add_zero]
  · rw [interpolate_eq p n n vp vn h.le h, div_self (sub_ne_zero.2 (Nat.cast_lt.2 h).ne'), mul_one, add_sub_cancel]

/-- With an empty series every query is the error of soil.go:755-756 (a run stops with it). -/
theorem C20_gw_empty_series_is_error {α : Type} [Add α] [Sub α] [Mul α] [Div α] [OfNat α 0] [Conv α]
    (date : Nat) : getLevel ([] : List (Nat × α)) date = none := by
  simp [getLevel, mapGet, neighbours]

/-- The hypothesis "dates are day numbers ≥ 1" (`PositiveDays`) of `C20_gw_interpolates` and
`C20_gw_clamps_outside` is needed: the code uses 0 for "no neighbour", so a record dated 0 is not seen as the
earlier neighbour. -/
theorem C20_gw_sentinel_needs_positive_days :
    getLevel [((0 : Nat), (1 : ℚ)), (10, 3)] 5 = some 3 ∧ getLevel [((0 : Nat), (1 : ℚ))] 5 = none := by
  decide +kernel

/-- The mean is (H+L)/2, and for every argument of the sine the level GW − AMPL·sin(·) stays in the
interval between the two given levels, whichever of them is the larger one. -/
theorem C20_gw_sinus_in_interval (grhi grlo : Int) (x : ℝ) :
    (gwMean grhi grlo : ℝ) = ((grhi : ℝ) + grlo) / 2 ∧
    min (grhi : ℝ) grlo ≤ sinusLevel (gwMean grhi grlo) (gwAmpl grhi grlo) (Real.sin x) ∧
    sinusLevel (gwMean grhi grlo) (gwAmpl grhi grlo) (Real.sin x) ≤ max (grhi : ℝ) grlo := by
  have hm := gwMean_real grhi grlo
  refine ⟨hm, ?_⟩
  -- a mixture of the two given levels, with the weight (1 − sin)/2 on the second
  have e : sinusLevel (gwMean grhi grlo) (gwAmpl grhi grlo) (Real.sin x) =
      (1 - (1 - Real.sin x) / 2) * grhi + (1 - Real.sin x) / 2 * grlo := by
    unfold sinusLevel
    rw [hm, gwAmpl_real]; ring
  rw [e]
  exact combo_between (by linarith [Real.sin_le_one x]) (by linarith [Real.neg_one_le_sin x]) _ _

/-- The level of day `tag` with phase shift `phase` (run.go:379). -/
noncomputable def levelOfDay (grhi grlo : Int) (tag : ℝ) (phase : Int) : ℝ :=
  sinusLevel (gwMean grhi grlo) (gwAmpl grhi grlo) (Real.sin (sinArg tag phase Real.pi))

/-- Phase: the argument of the sine is (day + phase)·π/180, so the oscillation has a period of 360
days, a phase shift of `phase` days moves it by that many days, the level passes through the mean
where day + phase is a multiple of 180, reaches the first level of the polygon file (GH) where
day + phase ≡ 90 and the second one (GL) where day + phase ≡ 270 (mod 360). -/
theorem C20_gw_sinus_phase (grhi grlo : Int) (tag : ℝ) (phase : Int) :
    sinArg tag phase Real.pi = (tag + phase) * Real.pi / 180 ∧
    levelOfDay grhi grlo tag phase = levelOfDay grhi grlo (tag + phase) 0 ∧
    levelOfDay grhi grlo (tag + 360) phase = levelOfDay grhi grlo tag phase ∧
    (∀ k : Int, tag + phase = 180 * k → levelOfDay grhi grlo tag phase = ((grhi : ℝ) + grlo) / 2) ∧
    (∀ k : Int, tag + phase = 90 + 360 * k → levelOfDay grhi grlo tag phase = grhi) ∧
    (∀ k : Int, tag + phase = 270 + 360 * k → levelOfDay grhi grlo tag phase = grlo) := by
  have harg : ∀ (t : ℝ) (ph : Int), sinArg t ph Real.pi = (t + ph) * Real.pi / 180 := fun _ _ => rfl
  have hm := gwMean_real grhi grlo
  have ha := gwAmpl_real grhi grlo
  refine ⟨harg tag phase, ?_, ?_, ?_, ?_, ?_⟩
  · unfold levelOfDay
    rw [harg, harg]; push_cast; ring_nf
  · unfold levelOfDay
    rw [harg, harg]
    have : (tag + 360 + phase) * Real.pi / 180 = (tag + phase) * Real.pi / 180 + 2 * Real.pi := by ring
    rw [this, Real.sin_add_two_pi]
  · intro k hk
    unfold levelOfDay sinusLevel
    rw [harg, hk, hm]
    have : (180 * (k : ℝ)) * Real.pi / 180 = k * Real.pi := by ring
    rw [this, Real.sin_int_mul_pi]; ring
  · intro k hk
    unfold levelOfDay sinusLevel
    rw [harg, hk, hm, ha]
    have : (90 + 360 * (k : ℝ)) * Real.pi / 180 = Real.pi / 2 + k * (2 * Real.pi) := by ring
    rw [this, Real.sin_add_int_mul_two_pi, Real.sin_pi_div_two]; ring
  · intro k hk
    unfold levelOfDay sinusLevel
    rw [harg, hk, hm, ha]
    have : (270 + 360 * (k : ℝ)) * Real.pi / 180 = -(Real.pi / 2) + (k + 1 : Int) * (2 * Real.pi) := by
      push_cast; ring
    rw [this, Real.sin_add_int_mul_two_pi, Real.sin_neg, Real.sin_pi_div_two]; ring

example : Ascending [((3 : Nat), (2 : ℚ)), (10, 4), (40, 1)] ∧
    PositiveDays [((3 : Nat), (2 : ℚ)), (10, 4), (40, 1)] := by
  unfold Ascending PositiveDays
  decide +kernel

example : getLevel [((3 : Nat), (2 : ℚ)), (10, 4), (40, 1)] 20 = some 3 := by
  decide +kernel

example : getLevel [((3 : Nat), (2 : ℚ)), (10, 4), (40, 1)] 1 = some 2 ∧
    getLevel [((3 : Nat), (2 : ℚ)), (10, 4), (40, 1)] 99 = some 1 := by
  decide +kernel

end Hermes.GroundWater
