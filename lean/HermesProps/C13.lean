/-
C13 — Alternative input formats of the same content give identical results.
Post-tokenisation models: HermesModel/CropParam.lean (classic reader, YAML reader, converter),
HermesModel/Measure.lean, HermesModel/InputFormats.lean (soil, rotation, weather), date formats via
the C12 theorems.  Tokenisation itself (fixed columns, strings.Fields, YAML) is tied to the code by
the correspondence check only.
The crop-parameter theorems hold for every arithmetic `α` (in particular IEEE double): they state
which expression each reader stores into which field.
-/
import HermesProofs.CropParam
import HermesProofs.Ite
import HermesModel.Measure
import HermesModel.InputFormats
import HermesModel.CropWitness
import HermesProps.C12
set_option linter.unusedSectionVars false

namespace Hermes.CropParam
section
variable {α : Type} [Add α] [Div α] [LT α] [LE α] [DecidableLT α] [DecidableLE α]
  [OfNat α 0] [OfNat α 100] [OfNat α 200] [TruncInt α]

/-- within the shape limits neither reader ends the process, and the converter's output passes
the shape tests of the YAML reader -/
theorem C13_cropparam_readers_accept (t : Classic α) (rep : Bool) (s : State α) (h : t.WF) :
    applyClassic t rep s = some (applyClassicCore t rep s) ∧
    applyYml (convert t) rep s = some (applyYmlCore (convert t) rep s) := by
  have hk := h.nrkom_le
  have hw := h.worg_len
  have hm := h.mairt_len
  have hl := h.stages_len
  constructor
  · unfold applyClassic
    rw [if_neg]
    have := h.nrentw_le
    rintro (hc | hc | hc | ⟨hc, hc'⟩)
    · omega
    · omega
    · omega
    · have := h.org_le hc; omega
  · unfold applyYml
    have : ymlShapeOk (convert t) = true := by
      unfold ymlShapeOk
      simp only [Bool.and_eq_true, decide_eq_true_iff, List.all_eq_true]
      refine ⟨⟨⟨⟨⟨⟨hk, h.above_ok⟩, h.nrentw_le⟩, ?_⟩, ?_⟩, ?_⟩, fun st hst => ?_⟩
      -- `WORG` and `MAIRT` have `NRKOM` entries, the stage table has `NRENTW` rows, each row `NRKOM` slots
      · simp only [convert, List.length_take]; omega
      · simp only [convert, List.length_take]; omega
      · simp only [convert, List.length_take, List.length_map]; omega
      · obtain ⟨x, hx, rfl⟩ := List.mem_map.mp (List.mem_of_mem_take hst)
        have := h.slots x (List.mem_of_mem_take hx)
        simp only [convert, convertStage, List.length_take]
        omega
    rw [if_pos this]

/-- **Classic file ≡ YAML written by the converter.** For every token record within the shape
limits (≤ 5 organs, ≤ 10 stages, BBCH codes 0…99), every prior model state and both values of the
permanent-crop condition, the YAML reader applied to the converter's output stores exactly the
state the classic reader stores — derived quantities (VELOC/200, concentrations/100, total
temperature sum, BBCH flag), the resets and the optional parameters of N-content function 5
(absent token = 0 in both) included. -/
theorem C13_cropparam_yml_eq_classic (t : Classic α) (rep : Bool) (s : State α) (h : t.WF) :
    applyYml (convert t) rep s = applyClassic t rep s := by
  obtain ⟨e1, e2⟩ := C13_cropparam_readers_accept t rep s h
  rw [e1, e2, yml_convert_eq_classic_core t rep s h.bbch_ok]

end

/-- a crop file without the optional `org=` token read after a crop with `org=S4`: both encodings
store organ 0 (the classic reader before the repair "fix: classic crop reader resets RGA, RGB and SubOrgan
before reading function 5" kept organ 4) -/
theorem C13_cropparam_missing_org_token_resets :
    (applyClassic witnessNoOrg false afterBeet).map (·.subOrgan) = some 0 ∧
    (applyYml (convert witnessNoOrg) false afterBeet).map (·.subOrgan) = some 0 := by
  decide

/-! non-vacuity: the witness record is within the shape limits, so `C13_cropparam_readers_accept` and `C13_cropparam_yml_eq_classic` apply to it -/
example : witnessNoOrg.WF :=
  { nrkom_le := by decide, nrentw_le := by decide, stages_len := rfl, worg_len := rfl, mairt_len := rfl,
    above_ok := by decide, org_le := by decide,
    slots := by intro st h; simp [witnessNoOrg] at h; subst h; exact ⟨rfl, rfl⟩,
    bbch_ok := by intro st h v hv; simp [witnessNoOrg] at h; subst h; simp [witnessStage] at hv }
example : (applyClassic witnessNoOrg false zeroState).map (·.veloc) = some 1 := by decide
example : (applyYml (convert witnessNoOrg) false zeroState).map (·.tendsum) = some 148 := by decide

end Hermes.CropParam

namespace Hermes.Measure
section
variable {α : Type} [Add α] [Sub α] [Mul α] [Div α] [OfNat α 0] [OfNat α 3] [OfNat α 5]
  [OfNat α 100] [OfNat α 300] [OfScientific α]

/-- **Measurement file, CSV ≡ text.** For every number of layers, every reading of column M and
every content — all fifteen columns, or only the nine mandatory ones — the CSV reader initialises
water and mineral N of every layer and the water sum exactly as the text reader does for the same
tokens. -/
theorem C13_measure_csv_eq_txt (c : Csv α) (w wmin : List α) :
    readCsv c w wmin = readTxt c.toTxt w wmin := by
  have e1 : (wClassCsv : Nat → Option Nat) = wClassTxt := rfl
  have e2 : (nClassCsv : Nat → Nat × Nat) = nClassTxt := rfl
  unfold readCsv readTxt Csv.toTxt Csv.opt
  rw [e1, e2]
  cases hd : c.hasDeepHeader <;> simp

/-- the layer → depth class assignment of the two duplicated routines is the same function, total
on the 20 layers -/
theorem C13_measure_layer_classes_agree :
    (∀ zi, wClassCsv zi = wClassTxt zi) ∧ (∀ i, nClassCsv i = nClassTxt i) ∧
    (∀ zi, 1 ≤ zi → zi ≤ 20 → ∃ c, wClassTxt zi = some c ∧ c ≤ 5) := by
  refine ⟨fun _ => rfl, fun _ => rfl, fun zi _ _ => ?_⟩
  unfold wClassTxt
  -- every test that succeeds assigns a class; the six tests leave no number out
  iterate 6 refine ite_of_imp (fun o => ∃ c, o = some c ∧ c ≤ 5) (fun _ => ⟨_, rfl, by decide⟩) (fun _ => ?_)
  omega

end

example : wClassTxt 3 = some 0 ∧ wClassTxt 4 = some 1 ∧ wClassTxt 16 = some 5 ∧ nClassTxt 16 = (5, 5) := by decide

end Hermes.Measure

namespace Hermes.InputFormats

/-- **Soil, CSV ≡ fixed-width text**: without the CSV-only measured bulk density column every
horizon gets the same stored values (stones/100, C/N default 10, N and humus content, density of
the class, optional capacities and texture). -/
theorem C13_soil_csv_eq_txt {α : Type} [Mul α] [Div α] [BEq α] [OfNat α 0] [OfNat α 10] [OfNat α 100]
    [OfScientific α] (hs : List (HorizonTok α)) (hb : ∀ h ∈ hs, h.bulk = none) :
    hs.map horizonCsv = hs.map horizonTxt :=
  List.map_congr_left fun h hm => by simp [horizonCsv, horizonTxt, hb h hm]

/-- **Rotation, CSV ≡ text**: with either header in use every line of tokens assigns the same
fields (crop, sowing, harvest, exported residues, yield, organic-fertiliser flag, variety). -/
theorem C13_rotation_csv_eq_txt (lines : List (List String)) :
    lines.map (rotCsv shippedHeader) = lines.map rotTxt ∧
    lines.map (rotCsv recognisedHeader) = lines.map rotTxt := by
  -- a header whose recognised names sit at their default positions leaves the defaults
  have h1 : headerIdx shippedHeader 0 {} = {} := by decide
  have h2 : headerIdx recognisedHeader 0 {} = {} := by decide
  constructor <;> exact List.map_congr_left fun l _ => by simp [rotCsv, rotTxt, h1, h2]

/-- The three weather readers store the same values (precipitation in cm × correction,
PAR, wind floored at 0.5 m/s on every day) for a day whose mean temperature equals the min/max mean
the day-of-year layout derives. -/
theorem C13_weather_layouts_agree {α : Type} [Add α] [Mul α] [Div α] [LT α] [DecidableLT α]
    [OfNat α 2] [OfNat α 10] [OfScientific α]
    (cor : α) (days : List (WDay α)) (h : ∀ d ∈ days, d.tavg = (d.tmax + d.tmin) / 2) :
    days.map (dayYearFile cor) = days.map (dayCsv cor) ∧ days.map (dayCsv cor) = days.map (dayCz cor) := by
  constructor <;> exact List.map_congr_left fun d hd => by simp [dayYearFile, dayCsv, dayCz, h d hd]

example : rotTxt ["F1", "WW", "01101979", "04081980", "080", "050", "0"] =
    { field := "F1", crop := "WW", sow := "01101979", harvest := "04081980", rex := "080", yld := "050",
      autorg := some "0", variety := none } := by decide

end Hermes.InputFormats

namespace Hermes.Calendar

/-- A valid date written in any two of the four formats (with the century split
admissible for the short ones) is read as the same day of year and the same day number. -/
theorem C13_date_formats_agree (f1 f2 : DateFormat) (cent yr mon tg : Nat) (h : ValidDate yr mon tg)
    (hc : SplitOk cent yr) :
    ∃ t1 t2, render f1 [] (masdat yr mon tg) = some t1 ∧ render f2 [] (masdat yr mon tg) = some t2 ∧
      parse f1 cent t1 = parse f2 cent t2 := by
  obtain ⟨t1, r1, p1⟩ := C12_parse_render f1 [] (by simp) cent yr mon tg h (fun _ => hc)
  obtain ⟨t2, r2, p2⟩ := C12_parse_render f2 [] (by simp) cent yr mon tg h (fun _ => hc)
  exact ⟨t1, t2, r1, r2, by rw [p1, p2]⟩

end Hermes.Calendar
