/-
C02 — Soil mineral nitrogen mass balance closes on every simulated day.
Models: HermesModel/Nitro.lean (`nmove`, hermes/nitro.go:699-862), HermesModel/Mineral.lean
(`mineral` bookkeeping nitro.go:577-696, `Denitr`/`Denitmo` removal denit.go), HermesModel/Denitmo.lean
(`Denitmo` on the whole array C1, denit.go:87-212).  Exact-arithmetic
statements over ℚ for every number of layers ≥ 2, every flux pattern and every sub-step length;
round-off is measured by the search stage of the check.
-/
import HermesProofs.Nitro
import HermesProofs.Mineral
import HermesProofs.Denitmo
namespace Hermes.Nitro
open Hermes.Mineral

/-- **Dispersion only moves N between layers.** For every profile of at least two layers the
dispersion terms of one `nmove` call sum to zero, whatever the concentrations and dispersion
coefficients (difference of interface fluxes, zero flux at the bottom). -/
theorem C02_disp_telescopes (dz2 : ℚ) (l : List (ℚ × ℚ)) (h : 2 ≤ l.length) :
    (dispGo dz2 none l).sum = 0 := dispGo_none_sum dz2 l h

example : (dispGo (100 : ℚ) none [(0.3, 2), (0.1, 1), (0.2, 5)]).sum = 0 :=
  C02_disp_telescopes _ _ (by simp)

/-- **The same concentration is used on both sides of every layer interface**, in all four sign
combinations: the flux a layer loses (gains) through its lower boundary is the flux the layer
below gains (loses) through its upper boundary; nothing enters with the rain (the concentration
above the profile is 0), nothing leaves with evaporation, inflow from below the profile carries
concentration 0.  (`konvLayer_eq` shows that the code's four-case formula is
(bottom term + drain term − top term)/dz with exactly these terms; the drain layer loses
`c·QDRAIN` in every sign case.) -/
theorem C02_konv_interfaces_agree (cAbove cBelow q : ℚ) :
    topTerm false cAbove cBelow q = botTerm cAbove cBelow q ∧
    topTerm true 0 cBelow q = 0 ∧
    (q < 0 → botTerm cAbove 0 q = 0) := by
  refine ⟨topTerm_below cAbove cBelow q, topTerm_top cBelow q, ?_⟩
  intro h; simp [botTerm, h]

/-- the code's convection term is exactly bottom + drain − top -/
theorem C02_konv_layer_is_flux_difference (dz qd : ℚ) (top drain : Bool) (cUp c cDown qTop qBot : ℚ) :
    konvLayer dz qd top drain cUp c cDown qTop qBot
      = (botTerm c cDown qBot + drainTerm qd drain c - topTerm top cUp c qTop) / dz :=
  konvLayer_eq dz qd top drain cUp c cDown qTop qBot

/-- **What the counters book is what leaves.** In one `nmove` call the drain counter grows by
exactly what the convection terms take out of the drain layer — in all sign cases of the fluxes,
also with capillary rise through the drain layer — and, with the leaching depth at the profile
bottom, the leaching counter grows by exactly the flux through the bottom (percolation carries the
concentration of the last layer, inflow from below carries none). -/
theorem C02_counters_book_boundary_fluxes (i : In ℚ) (n : ℕ) (h : WF i n) (hdz : i.dz ≠ 0) :
    (step i).drainloss = i.drainloss + 100 * drainFlux i ∧
    (i.outn = n → (step i).outsum = i.outsum + 100 * bottomFlux i) :=
  ⟨step_drainloss_flux i n h hdz, step_outsum_flux i n h hdz⟩

/-- If no non-negativity clamp engages, one call changes the mineral N of the
profile by exactly: − uptake (first sub-step only) + wdt·ΣDN − ΔOUTSUM − ΔDRAINLOSS.  Every n ≥ 2,
every sign pattern of the fluxes, drain at any layer, leaching depth at the profile bottom. -/
theorem C02_nmove_balance (i : In ℚ) (n : ℕ) (h : WF i n) (hdz : i.dz ≠ 0) (hout : i.outn = n) (hc : NoClamp i) :
    (step i).c1.sum = i.c1.sum - uptaken i + i.wdt * i.dn.sum
      - ((step i).outsum - i.outsum) - ((step i).drainloss - i.drainloss) := by
  have := (step_total i n h hdz hout).2 hc
  linarith

/-- **The clamps only add.** With any clamp engagement (uptake, concentration, post-transport,
post-source), positive layer thickness and water contents, the profile ends with at least the
balanced amount: the clamps never remove N. -/
theorem C02_nmove_clamp_only_adds (i : In ℚ) (n : ℕ) (h : WF i n) (hdz : 0 < i.dz) (hout : i.outn = n)
    (hwg : AllTriples (fun _ _ w => 0 < w) ((phaseUptake i).map (·.1)) i.dn i.wg) :
    i.c1.sum - uptaken i + i.wdt * i.dn.sum - ((step i).outsum - i.outsum) - ((step i).drainloss - i.drainloss)
      ≤ (step i).c1.sum := by
  have := (step_total i n h hdz.ne' hout).1 hdz hwg
  linarith

/-- **Day balance for any number of sub-steps.** `runDay` runs the first sub-step with the uptake
block and feeds C1, PE and the counters into the following sub-steps (fluxes, water contents,
coefficients and lengths of the sub-steps arbitrary).  If no clamp engages on the way, the mineral N
of the profile changes over the day by − uptake (once) + Σₖ wdtₖ·ΣDNₖ − ΔOUTSUM − ΔDRAINLOSS; with
n equal sub-steps of length 1/n and the day's source term DN this is + ΣDN. -/
theorem C02_nitro_day_balance (i : In ℚ) (rest : List (In ℚ)) (n : ℕ)
    (h : WF { i with first := true } n) (hdz : i.dz ≠ 0) (hout : i.outn = n) (hc : NoClamp { i with first := true })
    (hrest : DayOk n (step { i with first := true }) rest) :
    (runDay i rest).c1.sum = i.c1.sum - (step { i with first := true }).pe.sum
      + (i.wdt * i.dn.sum + (rest.map (fun j => j.wdt * j.dn.sum)).sum)
      - ((runDay i rest).outsum - i.outsum) - ((runDay i rest).drainloss - i.drainloss) := by
  unfold runDay
  have h1 := runRest_total n rest _ hrest
  have h2 : _ = i.c1.sum + i.outsum + i.drainloss - uptaken { i with first := true } + i.wdt * i.dn.sum :=
    (step_total { i with first := true } n h hdz hout).2 hc
  have hu : uptaken { i with first := true } = (step { i with first := true }).pe.sum := if_pos rfl
  rw [hu] at h2
  linarith

/-- The flag is raised iff some pre-clamp value is below the threshold. -/
theorem C02_instability_flag_iff (i : In ℚ) :
    (step i).unstable = true ↔ ∃ x ∈ (step i).ck, x < i.stab := by
  have : (step i).unstable = (step i).ck.any (fun x => decide (x < i.stab)) := rfl
  rw [this, List.any_eq_true]
  simp

/-- a two-layer state with drain flux in layer 1 while the flux through the lower boundary of
that layer is upward (capillary rise) — the input class of finding F2 -/
def drainWitness : In ℚ :=
  { dz := 10, wdt := 1, dv := 0, first := false, fluss0 := 1, q := [-1, 0], qdrain := 1, draidep := 1, outn := 2,
    wg := [1 / 1000, 1 / 1000, 1 / 1000], w := [1, 1, 1], d := [0, 0], c1 := [1, 1], pe := [0, 0], dn := [0, 0],
    stab := -3 / 2, inSeason := false, afterSow := false, schnorr := 0, pesum := 0, aufnasum := 0, outsum := 0,
    nleag := 0, drainloss := 0 }

/-- on that state the drain counter grows by 100 kg N/ha and the convection terms take exactly
that out of the drain layer (the code before the repair of F2 took nothing) -/
example : (step drainWitness).drainloss - drainWitness.drainloss = 100 ∧ 100 * drainFlux drainWitness = 100 := by
  decide +kernel

/-- In every layer the source term handed to the transport equals
what the mineralised-amount counters and the dissolved-fertiliser counter gain minus the N2O loss
booked. -/
theorem C02_mineral_source_bookkeeping (top : Bool) (dsumm nh4sum wred : ℚ) (L : Layer ℚ) (a : Acc ℚ) :
    (layer top dsumm nh4sum wred L a).1.dn =
      ((layer top dsumm nh4sum wred L a).1.minaos - L.minaos) + ((layer top dsumm nh4sum wred L a).1.minfos - L.minfos)
        + ((layer top dsumm nh4sum wred L a).2.ums - a.ums) - ((layer top dsumm nh4sum wred L a).2.n2onitsum - a.n2onitsum) := by
  unfold layer
  by_cases h : 0 < (L.tdLo + L.tdUp) / 2
  · simp only [h, if_true]; ring
  · simp only [h, if_false]; ring

/-- **Denitrification removes exactly what it books and never more than present** (`Denitr`): with
moisture and temperature factors in [0,1] and non-negative nitrate the clamp is dead code
(1.274·N ≤ N² + 74 for every N) and the three layers lose exactly ΔCUMDENIT. -/
theorem C02_denit_removes_exactly (c0 c1 c2 ft fm cum : ℚ) (h0 : 0 ≤ c0) (h1 : 0 ≤ c1) (h2 : 0 ≤ c2)
    (hft0 : 0 ≤ ft) (hft : ft ≤ 1) (hfm0 : 0 ≤ fm) (hfm : fm ≤ 1) :
    (denitr c0 c1 c2 ft fm cum).c.sum = c0 + c1 + c2 - ((denitr c0 c1 c2 ft fm cum).cumdenit - cum) ∧
    cum ≤ (denitr c0 c1 c2 ft fm cum).cumdenit := by
  unfold denitr
  by_cases hn : 0 < c0 + c1 + c2
  · simp only [hn, if_true]
    obtain ⟨hd, hd0⟩ := denitRate_le 1274 (c0 + c1 + c2) ft fm hn (by norm_num) (by norm_num) hft0 hft hfm0 hfm
    have q : ∀ {c : ℚ}, 0 ≤ c → 0 ≤ c / (c0 + c1 + c2) := fun hc => div_nonneg hc hn.le
    have hB := block_of_shares h0 h1 h2 (q h0) (q h1) (q h2) (by field_simp) hd0 hd
    constructor
    · rw [hB.exact (own_shares_nonneg h0 h1 h2 hn hd), List.sum_cons, List.sum_cons, List.sum_singleton]
      ring
    · exact le_add_of_nonneg_right hd0
  · simp only [hn, if_false]
    constructor
    · simp; ring
    · exact le_refl _

example : (denitr (10 : ℚ) 5 0 (1 / 2) 1 3).c.sum = 10 + 5 + 0 - ((denitr (10 : ℚ) 5 0 (1 / 2) 1 3).cumdenit - 3) :=
  (C02_denit_removes_exactly 10 5 0 (1 / 2) 1 3 (by norm_num) (by norm_num) (by norm_num) (by norm_num)
    (by norm_num) (by norm_num) (by norm_num)).1

/-- **`Denitmo` removes exactly what it books** when no clamp engages — for profiles of at least nine
layers: for a profile of `9 + k` layers (every k) the mineral N of the profile drops by exactly the
amount added to the denitrification counter, ΣC1' = ΣC1 − ΔCUMDENIT. "No clamp engages" = none of
the nine values `C1[i] − Denit·share` that the code compares with 0 is negative (`denitmoPre`).
Partial: the three 30 cm blocks are the array entries 0 … 8 whatever the number of layers; for a
profile of fewer than nine layers the statement is false of the code
(`C02_denitmo_removes_exactly_fails_at`). -/
theorem C02_denitmo_removes_exactly_partial (c : List ℚ) (ft1 ft2 ft3 fm1 fm2 fm3 cum : ℚ) (k : ℕ)
    (h : DenitmoIn c ft1 ft2 ft3 fm1 fm2 fm3) (hnc : ∀ p ∈ denitmoPre c ft1 ft2 ft3 fm1 fm2 fm3, 0 ≤ p) :
    ((denitmo c ft1 ft2 ft3 fm1 fm2 fm3 cum).c.take (9 + k)).sum =
      (c.take (9 + k)).sum - ((denitmo c ft1 ft2 ft3 fm1 fm2 fm3 cum).cumdenit - cum) :=
  (denitmo_spec h cum).exact hnc k

/-- **Violated for peat profiles of fewer than nine layers.** `Denitmo` reads and charges the array
entries 0 … 8 regardless of `N`. Witness: a profile of 8 layers with 5 kg N/ha in layers 7 and 8 and
10 kg N/ha in the array entry below the profile bottom (`C1[N]`, which the transport routine
maintains): no clamp engages anywhere, the counter books the whole rate of the third block, the
profile loses only three quarters of it — a quarter of the booked denitrification never left the
profile (the day balance shows N appearing). -/
theorem C02_denitmo_removes_exactly_fails_at :
    ∃ c : List ℚ, DenitmoIn c 1 1 1 1 1 1 ∧ (∀ p ∈ denitmoPre c 1 1 1 1 1 1, 0 ≤ p) ∧
      (c.take 8).sum - ((denitmo c 1 1 1 1 1 1 0).cumdenit - 0) < ((denitmo c 1 1 1 1 1 1 0).c.take 8).sum := by
  refine ⟨[0, 0, 0, 0, 0, 0, 5, 5, 10], ⟨?_, ?_, ?_, ?_, ?_, ?_, ?_, ?_⟩, ?_, ?_⟩ <;> decide +kernel

/-- **The clamp of `Denitmo` can only add N, never remove it** — every number of layers `n` (also
fewer than nine): with any clamp engagement the profile ends with at least ΣC1 − ΔCUMDENIT; the
counter never decreases and never books more than the nitrate of the nine block entries. -/
theorem C02_denitmo_clamp_only_adds (c : List ℚ) (ft1 ft2 ft3 fm1 fm2 fm3 cum : ℚ) (n : ℕ)
    (h : DenitmoIn c ft1 ft2 ft3 fm1 fm2 fm3) :
    (c.take n).sum - ((denitmo c ft1 ft2 ft3 fm1 fm2 fm3 cum).cumdenit - cum)
      ≤ ((denitmo c ft1 ft2 ft3 fm1 fm2 fm3 cum).c.take n).sum ∧
    cum ≤ (denitmo c ft1 ft2 ft3 fm1 fm2 fm3 cum).cumdenit ∧
    (denitmo c ft1 ft2 ft3 fm1 fm2 fm3 cum).cumdenit - cum ≤ (c.take 9).sum :=
  ⟨(denitmo_spec h cum).ge n, (denitmo_spec h cum).mono, (denitmo_spec h cum).booked_le⟩

/-- **Removal per layer never exceeds the nitrate present**: every block layer ends between 0 and its
old content (when the clamp engages the removal is exactly the content), the layers below 90 cm are
untouched and the array keeps its length. -/
theorem C02_denitmo_removal_le_present (c : List ℚ) (ft1 ft2 ft3 fm1 fm2 fm3 cum : ℚ)
    (h : DenitmoIn c ft1 ft2 ft3 fm1 fm2 fm3) :
    (∀ i, i < 9 → 0 ≤ (denitmo c ft1 ft2 ft3 fm1 fm2 fm3 cum).c.getD i 0 ∧
      (denitmo c ft1 ft2 ft3 fm1 fm2 fm3 cum).c.getD i 0 ≤ c.getD i 0) ∧
    (denitmo c ft1 ft2 ft3 fm1 fm2 fm3 cum).c.drop 9 = c.drop 9 ∧
    (denitmo c ft1 ft2 ft3 fm1 fm2 fm3 cum).c.length = c.length :=
  ⟨(denitmo_spec h cum).entry, (denitmo_spec h cum).drop, (denitmo_spec h cum).length⟩

/-- **In the blocks 0-30 and 30-60 cm the clamp is dead code** (as in `Denitr`: 4.242·N ≤ N² + 74):
the six upper layers lose exactly the two rates booked for them, whatever the state. Only the
block 60-90 cm, whose shares of the second and third layer are exchanged, can clamp. -/
theorem C02_denitmo_upper_blocks_exact (c : List ℚ) (ft1 ft2 ft3 fm1 fm2 fm3 cum : ℚ)
    (h : DenitmoIn c ft1 ft2 ft3 fm1 fm2 fm3) :
    ((denitmo c ft1 ft2 ft3 fm1 fm2 fm3 cum).c.take 6).sum = (c.take 6).sum -
      ((denitmoBlock false (c.getD 0 0) (c.getD 1 0) (c.getD 2 0) ft1 fm1).2 +
       (denitmoBlock false (c.getD 3 0) (c.getD 4 0) (c.getD 5 0) ft2 fm2).2) :=
  (denitmo_spec h cum).upper

/-- The exchanged shares of layers 8 and 9 (denit.go:120-121) do engage the clamp: nitrate 10 in
layer 8, none in layer 9 — layer 9 is charged layer 8's share and clamped at 0, layer 8 is charged
layer 9's share (nothing): the counter books a positive amount, the profile loses nothing. (With
the shares in place the same state loses exactly what is booked.) -/
theorem C02_denitmo_swapped_shares_engage_clamp :
    ∃ c : List ℚ, DenitmoIn c 1 1 1 1 1 1 ∧
      (denitmo c 1 1 1 1 1 1 0).c = c ∧ 0 < (denitmo c 1 1 1 1 1 1 0).cumdenit ∧
      ¬ (∀ p ∈ denitmoPre c 1 1 1 1 1 1, 0 ≤ p) ∧
      ((denitmoBlock false 0 10 0 1 1).1).sum = 10 - (denitmoBlock false 0 10 0 1 1).2 := by
  refine ⟨[0, 0, 0, 0, 0, 0, 0, 10, 0, 5], ⟨?_, ?_, ?_, ?_, ?_, ?_, ?_, ?_⟩, ?_⟩ <;> decide +kernel

def peatC1 : List ℚ := [12, 8, 5, 3, 2, 2, 1, 2, 3, 7]

-- the hypotheses are satisfiable, with no clamp engaged
example : DenitmoIn peatC1 (1 / 2) (3 / 4) 1 (1 / 2) (1 / 2) (1 / 3) ∧
    ∀ p ∈ denitmoPre peatC1 (1 / 2) (3 / 4) 1 (1 / 2) (1 / 2) (1 / 3), 0 ≤ p := by
  refine ⟨⟨?_, ?_, ?_, ?_, ?_, ?_, ?_, ?_⟩, ?_⟩ <;> decide +kernel

def exampleIn : In ℚ :=
  { dz := 10, wdt := 1 / 2, dv := 49 / 10, first := true, fluss0 := 1 / 5, q := [1 / 20, -1 / 50, -1 / 100], qdrain := 0,
    draidep := 2, outn := 3, wg := [3 / 10, 1 / 4, 1 / 5, 1 / 5], w := [3 / 10, 3 / 10, 3 / 10, 3 / 10],
    d := [1 / 2, 1 / 2, 1 / 2], c1 := [20, 10, 5], pe := [1, 0, 0], dn := [1 / 5, 1 / 10, 0], stab := -3 / 2,
    inSeason := true, afterSow := true, schnorr := 0, pesum := 0, aufnasum := 0, outsum := 0, nleag := 0, drainloss := 0 }

example : WF exampleIn 3 := ⟨by decide, rfl, rfl, rfl, rfl, rfl, rfl, rfl⟩


/-- a state in which no clamp engages (hypotheses of `C02_nmove_balance` are satisfiable) -/
def calmIn : In ℚ :=
  { dz := 10, wdt := 1, dv := 0, first := false, fluss0 := 0, q := [0, 0], qdrain := 0, draidep := 0, outn := 2,
    wg := [1 / 1000, 1 / 1000, 1 / 1000], w := [1, 1, 1], d := [0, 0], c1 := [3, 1], pe := [0, 0], dn := [0, 0],
    stab := -3 / 2, inSeason := false, afterSow := false, schnorr := 0, pesum := 0, aufnasum := 0, outsum := 0,
    nleag := 0, drainloss := 0 }

theorem calm_ck : (step calmIn).ck = [3, 1] := by decide +kernel

theorem calm_ok : WF calmIn 2 ∧ NoClamp calmIn := by
  refine ⟨⟨le_rfl, rfl, rfl, rfl, rfl, rfl, rfl, rfl⟩, nofun, ?_, ?_⟩
  · show _ ∧ _ ∧ True
    decide +kernel
  · rw [calm_ck]
    show _ ∧ _ ∧ True
    decide +kernel

theorem calm_feed : feed calmIn (step { calmIn with first := true }) = calmIn := by
  unfold feed calmIn
  congr 1 <;> decide +kernel

example : WF calmIn 2 ∧ NoClamp calmIn := calm_ok

/-- positive water contents (hypothesis of `C02_nmove_clamp_only_adds`) -/
example : AllTriples (fun _ _ w => (0 : ℚ) < w) ((phaseUptake calmIn).map (·.1)) calmIn.dn calmIn.wg := by
  show _ ∧ _ ∧ True
  decide +kernel

/-- the hypotheses of `C02_nitro_day_balance` are satisfiable: a day of two sub-steps on `calmIn` -/
example : DayOk 2 (step { calmIn with first := true }) [calmIn] := by
  unfold DayOk
  rw [calm_feed]
  exact ⟨calm_ok.1, by decide +kernel, rfl, calm_ok.2, trivial⟩

end Hermes.Nitro
