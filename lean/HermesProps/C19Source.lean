/-
C19 — soil temperature stays within the envelope of its boundary temperatures: the theorems about the SOURCE.

`HermesModel/Generated/ImpSoiltemp.lean` is the Lean translation of the current Go source of `hermes.Soiltemp`
(hermes/soiltemp.go), regenerated by harness/cmd/extract on every run (the translator, DESIGN §4.3) and validated against the
compiled function by the `srcimp.Soiltemp` correspondence.  `HermesProofs/ImpSoiltemp.lean` proves that this translation
refines the hand-written model `SoilTemp.day` for every number of layers N ≥ 1, every state and every behaviour of the `math`
functions.  The theorems below restate C19 about the translated source; they stop checking when the source changes in a way
that is not behaviour-preserving.
-/
import HermesProofs.ImpSoiltemp

namespace Hermes.Props.C19Source
open Hermes.Imp Hermes.SoilTemp Hermes.ImpSoiltemp
open Hermes.Generated.Imp.Soiltemp (St)

/-- **The source refines the model** (all N ≥ 1, all states, all `math` behaviours): after `Soiltemp`, the arrays `TD`,
`TSOIL[0]`, `HEATCOND`, `HEATCAP` and the surface value `TSOIL[1][0]` are exactly what `SoilTemp.day` computes from the inputs
the source reads. -/
theorem C19_source_refines_model (m : MathFns ℚ) (s : St ℚ) (N : Nat) (h : Pre s N) :
    vw (Generated.Imp.Soiltemp.run m s).g_TD (N + 1) = (day (dayInOf m s N) (vw s.g_TSOIL_0 (N + 1))).td ∧
    vw (Generated.Imp.Soiltemp.run m s).g_TSOIL_0 (N + 1) = (day (dayInOf m s N) (vw s.g_TSOIL_0 (N + 1))).tsoil ∧
    vw (Generated.Imp.Soiltemp.run m s).g_HEATCOND N = (day (dayInOf m s N) (vw s.g_TSOIL_0 (N + 1))).cond ∧
    vw (Generated.Imp.Soiltemp.run m s).g_HEATCAP N = (day (dayInOf m s N) (vw s.g_TSOIL_0 (N + 1))).cap ∧
    rd (Generated.Imp.Soiltemp.run m s).g_TSOIL_1 0 = (day (dayInOf m s N) (vw s.g_TSOIL_0 (N + 1))).surf :=
  soiltemp_refines m s N h

theorem within_vw {lo hi : ℚ} {l : List ℚ} {n : Nat} :
    Within lo hi (vw l n) ↔ ∀ j : Nat, j < n → lo ≤ rd l (j : Int) ∧ rd l (j : Int) ≤ hi := by
  simp [Within, vw]

/-- **Maximum principle for the source, one call** (any number of layers): if the diffusion numbers the source computes lie in
[0, 1/2], every layer temperature `TD[0..N]` the source writes lies in any interval that contains the profile `TSOIL[0][0..N]`
it starts from, the surface value it imposes and TBASE. -/
theorem C19_source_day_envelope (m : MathFns ℚ) (s : St ℚ) (N : Nat) (h : Pre s N) (lo hi : ℚ)
    (hst : Stable s.g_DT_Num (s.g_DZ_Num * s.g_DZ_Num) (alphas (dayInOf m s N)))
    (hb : lo ≤ s.g_TBASE ∧ s.g_TBASE ≤ hi)
    (hw : ∀ j : Nat, j ≤ N → lo ≤ rd s.g_TSOIL_0 (j : Int) ∧ rd s.g_TSOIL_0 (j : Int) ≤ hi)
    (hs : lo ≤ rd (Generated.Imp.Soiltemp.run m s).g_TSOIL_1 0 ∧ rd (Generated.Imp.Soiltemp.run m s).g_TSOIL_1 0 ≤ hi) :
    ∀ j : Nat, j ≤ N → lo ≤ rd (Generated.Imp.Soiltemp.run m s).g_TD (j : Int) ∧
      rd (Generated.Imp.Soiltemp.run m s).g_TD (j : Int) ≤ hi := by
  obtain ⟨htd, _, _, _, hsf⟩ := soiltemp_refines m s N h
  rw [hsf] at hs
  have := day_within (dayInOf m s N) (vw s.g_TSOIL_0 (N + 1)) lo hi hst hb.1 hb.2
    (within_vw.mpr fun j hj => hw j (Nat.lt_succ_iff.mp hj)) hs.1 hs.2
  rw [← htd] at this
  exact fun j hj => within_vw.mp this j (Nat.lt_succ_of_le hj)

/-- **… without a hypothesis on the diffusion numbers**: for admissible layers (bulk density in [0.567, 2.3], water content and
humus in range, `0 < exp(·) ≤ 1`), DT = 1 d and DZ = 10 cm the source keeps the envelope. -/
theorem C19_source_day_envelope_admissible (m : MathFns ℚ) (s : St ℚ) (N : Nat) (h : Pre s N) (lo hi : ℚ)
    (hadm : AdmDay (dayInOf m s N))
    (hb : lo ≤ s.g_TBASE ∧ s.g_TBASE ≤ hi)
    (hw : ∀ j : Nat, j ≤ N → lo ≤ rd s.g_TSOIL_0 (j : Int) ∧ rd s.g_TSOIL_0 (j : Int) ≤ hi)
    (hs : lo ≤ rd (Generated.Imp.Soiltemp.run m s).g_TSOIL_1 0 ∧ rd (Generated.Imp.Soiltemp.run m s).g_TSOIL_1 0 ≤ hi) :
    ∀ j : Nat, j ≤ N → lo ≤ rd (Generated.Imp.Soiltemp.run m s).g_TD (j : Int) ∧
      rd (Generated.Imp.Soiltemp.run m s).g_TD (j : Int) ≤ hi :=
  C19_source_day_envelope m s N h lo hi (admDay_stable (dayInOf m s N) hadm) hb hw hs

/-- **The state handed to the next day** (`TSOIL[0][1..N]` = the daily means) keeps the envelope too, so the theorem composes over
days. -/
theorem C19_source_feedback_envelope (m : MathFns ℚ) (s : St ℚ) (N : Nat) (h : Pre s N) (lo hi : ℚ)
    (hst : Stable s.g_DT_Num (s.g_DZ_Num * s.g_DZ_Num) (alphas (dayInOf m s N)))
    (hb : lo ≤ s.g_TBASE ∧ s.g_TBASE ≤ hi)
    (hw : ∀ j : Nat, j ≤ N → lo ≤ rd s.g_TSOIL_0 (j : Int) ∧ rd s.g_TSOIL_0 (j : Int) ≤ hi)
    (hs : lo ≤ rd (Generated.Imp.Soiltemp.run m s).g_TSOIL_1 0 ∧ rd (Generated.Imp.Soiltemp.run m s).g_TSOIL_1 0 ≤ hi) :
    ∀ j : Nat, j ≤ N → lo ≤ rd (Generated.Imp.Soiltemp.run m s).g_TSOIL_0 (j : Int) ∧
      rd (Generated.Imp.Soiltemp.run m s).g_TSOIL_0 (j : Int) ≤ hi := by
  -- the profile fed back is `TD` (soiltemp.go:66-68)
  have e : vw (Generated.Imp.Soiltemp.run m s).g_TSOIL_0 (N + 1) = vw (Generated.Imp.Soiltemp.run m s).g_TD (N + 1) :=
    (soiltemp_refines m s N h).2.1.trans ((day_tsoil_eq_td _ _).trans (soiltemp_refines m s N h).1.symm)
  have := within_vw.mpr fun j hj => C19_source_day_envelope m s N h lo hi hst hb hw hs j (Nat.lt_succ_iff.mp hj)
  rw [← e] at this
  exact fun j hj => within_vw.mp this j (Nat.lt_succ_of_le hj)

def ProfileIn (lo hi : ℚ) (N : Nat) (t : St ℚ) : Prop :=
  ∀ j : Nat, j ≤ N → lo ≤ rd t.g_TSOIL_0 (j : Int) ∧ rd t.g_TSOIL_0 (j : Int) ≤ hi

/-- what a day must satisfy for the maximum principle: the state `Soiltemp` is called on is well formed, its diffusion numbers
are stable, the base temperature and the surface value the call imposes lie in [lo, hi] -/
def DayOK (m : MathFns ℚ) (lo hi : ℚ) (N : Nat) (t : St ℚ) : Prop :=
  Pre t N ∧ Stable t.g_DT_Num (t.g_DZ_Num * t.g_DZ_Num) (alphas (dayInOf m t N)) ∧
    (lo ≤ t.g_TBASE ∧ t.g_TBASE ≤ hi) ∧
    (lo ≤ rd (Generated.Imp.Soiltemp.run m t).g_TSOIL_1 0 ∧ rd (Generated.Imp.Soiltemp.run m t).g_TSOIL_1 0 ≤ hi)

/-- a history of the source: before every call of `Soiltemp` the rest of the simulation changes the state (the functions `p` of the
list: weather of the day, leaf area, evaporation, water contents, …), then `Soiltemp` runs; the list holds the states after each call -/
def history (m : MathFns ℚ) : List (St ℚ → St ℚ) → St ℚ → List (St ℚ)
  | [], _ => []
  | p :: ps, s => Generated.Imp.Soiltemp.run m (p s) :: history m ps (Generated.Imp.Soiltemp.run m (p s))

/-- **Envelope over the whole history, for the source** (induction over the days): if what happens between two calls leaves the
temperature profile alone and every day is `DayOK` whenever its start profile lies in [lo, hi], then after every call of the
translated `Soiltemp` all layer temperatures `TD[0..N]` and the profile handed to the next day lie in [lo, hi] — for any number of
days, layers and any behaviour of exp/pow/sqrt. -/
theorem C19_source_history_envelope (m : MathFns ℚ) (lo hi : ℚ) (N : Nat) :
    ∀ (preps : List (St ℚ → St ℚ)) (s : St ℚ), ProfileIn lo hi N s →
      (∀ p ∈ preps, ∀ t, (p t).g_TSOIL_0 = t.g_TSOIL_0) →
      (∀ p ∈ preps, ∀ t, ProfileIn lo hi N t → DayOK m lo hi N (p t)) →
      ∀ u ∈ history m preps s, (∀ j : Nat, j ≤ N → lo ≤ rd u.g_TD (j : Int) ∧ rd u.g_TD (j : Int) ≤ hi) ∧ ProfileIn lo hi N u := by
  intro preps
  induction preps with
  | nil => intro s _ _ _ u hu; simp [history] at hu
  | cons p ps ih =>
    intro s hs hkeep hok u hu
    have hps : ProfileIn lo hi N (p s) := by
      intro j hj
      rw [hkeep p (by simp) s]
      exact hs j hj
    obtain ⟨hpre, hst, hb, hsf⟩ := hok p (by simp) s hs
    have htd := C19_source_day_envelope m (p s) N hpre lo hi hst hb hps hsf
    have hfb := C19_source_feedback_envelope m (p s) N hpre lo hi hst hb hps hsf
    simp only [history, List.mem_cons] at hu
    rcases hu with hu | hu
    · rw [hu]; exact ⟨htd, hfb⟩
    · exact ih _ hfb (fun q hq => hkeep q (by simp [hq])) (fun q hq => hok q (by simp [hq])) u hu

def demoState : St ℚ :=
  { v_scov := 0, v_radiat := 0, g_LAI := 1, g_RAD := [3], g_TAG_Index := 0, g_ETA := 0.2, g_TEMP := [10], g_ALBEDO := 0,
    g_TSOIL_0 := [12, 11, 9], g_N := 2, g_TBASE := 9, g_TSOIL_1 := [0, 0, 0], g_TMIN := [5], g_TMAX := [15],
    g_HEATCOND := [0, 0], g_BD := [1.5, 1.5], g_WG_0 := [0.2, 0.25], g_DT_Num := 1, g_HEATCAP := [0, 0], g_HUMUS := [0.02, 0.01],
    g_TDSUM := [0, 0], g_DZ_Num := 10, g_TD := [0, 0, 0] }

-- non-vacuity: a concrete two-layer state satisfies `Pre`
example : Pre demoState 2 := by
  constructor <;> simp [demoState]

end Hermes.Props.C19Source
