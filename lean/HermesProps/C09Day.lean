/-
C09 — crop state stays valid: the photosynthesis / respiration numbers, the assimilate pool, the N-content
functions and the daily N uptake of `PhytoOut` (hermes/crop.go), which HermesProps/C09.lean takes as
hypotheses.  Model: HermesModel/CropDay.lean (`radia`, `nfn`, `growDay`, `uptakeDay`), tied to the real `radia` /
`PhytoOut` by the correspondence stage "cropday" of the C09 check.  Exact-arithmetic statements over ℚ.
The transcendental functions are inputs of the model; what the theorems assume of them is their range on the
argument the model hands to them (log ≥ 0 on [1,∞), exp ∈ (0,1] on (−∞,0], 0 < sin ≤ 1 for the solar elevation
at noon, 2^x > 0) — the theorems prove that the arguments lie in those domains (`C09_radia_log_args_ge_one`,
`C09_radia_exp_args_nonpos`).
-/
import HermesProofs.CropDay
import HermesProps.C09
namespace Hermes.CropDay
open Hermes.Crop

/-- AMAX never falls below its floor 0.1 — whatever the temperature function, the CO2 method and the
transcendental values give (crop.go:870-872). -/
theorem C09_radia_amax_floor (i : RadiaIn ℚ) (t : RadiaT ℚ) : 0.1 ≤ amaxOf i t := amaxOf_ge i t

/-- On a day with daylight both `math.Log` calls of `radia` get an argument ≥ 1 (so X, Y ≥ 0). -/
theorem C09_radia_log_args_ge_one (i : RadiaIn ℚ) (t : RadiaT ℚ) (r : RadiaRange i t) (hdl : 0 < i.dl) :
    1 ≤ argX i t ∧ 1 ≤ argY i t := ⟨argX_ge_one r hdl, argY_ge_one r hdl⟩

/-- On a day with daylight both `math.Exp(-MA/MI)` calls of `radia` get an argument ≤ 0 (so the factors 1 − exp(…) lie in [0,1)). -/
theorem C09_radia_exp_args_nonpos (i : RadiaIn ℚ) (t : RadiaT ℚ) (r : RadiaRange i t) (hdl : 0 < i.dl) :
    argC i t ≤ 0 ∧ argO i t ≤ 0 := ⟨argC_nonpos r hdl, argO_nonpos r hdl⟩

/-- **0 ≤ MAINT ≤ GPHOT** for every day length (incl. no daylight), latitude, temperature (below MINTMP, in
every segment of the C3 / C4 temperature functions), CO2 method, radiation or sunshine input, LAI ≥ 0, any number
of organs: the hypotheses of `C09_aspoo_nonneg_partial` (0 ≤ GPHOT) and the finiteness side conditions are
input-range facts (`RadiaRange`). -/
theorem C09_radia_gphot_maint_nonneg (i : RadiaIn ℚ) (t : RadiaT ℚ) (r : RadiaRange i t) :
    0 ≤ (radia i t).maint ∧ (radia i t).maint ≤ (radia i t).gphot ∧ 0 ≤ (radia i t).gphot := by
  have h : 0 ≤ (radia i t).maint ∧ (radia i t).maint ≤ (radia i t).gphot := by
    by_cases hdl : i.dl ≤ 0
    · simp [radia, hdl]
    · have h := maint0_range r (not_le.mp hdl)
      simp only [radia, if_neg hdl]
      exact ⟨h.1, ite_of_both (maint0 i t ≤ ·) _ (le_refl _) h.2⟩
  exact ⟨h.1, h.2, le_trans h.1 h.2⟩

/-- the effective day length used (and returned) on a day with daylight is positive: no division by 0 -/
theorem C09_radia_dle_pos (i : RadiaIn ℚ) (t : RadiaT ℚ) (hdl : 0 < i.dl) (hdle : 0 ≤ i.dle) : 0 < (radia i t).dle := by
  simp only [radia, if_neg (not_le.mpr hdl)]
  exact dleOf_pos i hdl hdle

/-- on a day evaluated from sunshine hours (RAD = 0) the sunshine hours are cut at DLE -/
theorem C09_radia_sund_le_dle (i : RadiaIn ℚ) (t : RadiaT ℚ) (hdl : 0 < i.dl) (hrad : i.rad = 0) :
    (radia i t).sund ≤ (radia i t).dle := by
  simp only [radia, if_neg (not_le.mpr hdl), (isZero_iff i.rad).mpr hrad, if_true, sundClamp, ← min_def_lt']
  exact min_le_right _ _

/-- With MAINTS > 0 every share MANT[i] lies in [0,1] and the shares sum to 1. -/
theorem C09_radia_mant_unit (i : RadiaIn ℚ) (hw : ∀ w ∈ i.worg, (0 : ℚ) ≤ w) (hm : ∀ m ∈ i.mairt, (0 : ℚ) ≤ m) (hs : 0 < maints i) :
    (∀ x ∈ mant i, 0 ≤ x ∧ x ≤ 1) ∧ (mant i).sum = 1 := by
  have hnn := zipMul_nonneg _ _ hw hm
  have hsum := maints_eq i
  constructor
  · intro x hx
    obtain ⟨y, hy, rfl⟩ := List.mem_map.mp hx
    exact ⟨div_nonneg (hnn y hy) hs.le, (div_le_one hs).2 (hsum ▸ List.single_le_sum hnn y hy)⟩
  · simp only [mant, div_eq_mul_inv]
    rw [List.sum_map_mul_right, List.map_id', ← hsum]
    exact mul_inv_cancel₀ (ne_of_gt hs)

/-- MAINTS > 0 as soon as the first organ (the root) has mass and a maintenance rate — the hypothesis
"MAINTS > 0" is reduced to a parameter fact (MAIRT[0] > 0) and `C09_organs_low_pos`. -/
theorem C09_maints_pos (i : RadiaIn ℚ) (hw : ∀ w ∈ i.worg, (0 : ℚ) ≤ w) (hm : ∀ m ∈ i.mairt, (0 : ℚ) ≤ m)
    (h0 : 0 < i.worg.getD 0 0) (h1 : 0 < i.mairt.getD 0 0) : 0 < maints i := by
  have hnn := zipMul_nonneg _ _ hw hm
  rw [maints_eq, mainorg]
  generalize i.worg = a at h0 hnn ⊢
  generalize i.mairt = b at h1 hnn ⊢
  rcases a with _ | ⟨w0, ws⟩ <;> rcases b with _ | ⟨m0, ms⟩ <;>
    simp only [List.getD_nil, List.getD_cons_zero, lt_irrefl] at h0 h1
  -- the root's term is one of the non-negative terms of the sum
  exact lt_of_lt_of_le (mul_pos h0 h1) (List.single_le_sum hnn _ (by simp))

/-- the organs 1–3 (root, leaf, stem) are strictly positive after every update (floor 0.1, crop.go:463-469) -/
theorem C09_organs_low_pos (e : OrganEnv ℚ) (gehalt lai0 laimax0 pesum0 : ℚ) (above : List ℕ)
    (orgs : List (OrganPar ℚ × ℚ × ℚ)) (k : ℕ) (hk : k < 3) (hlen : k < orgs.length) :
    0 < (organs e gehalt lai0 laimax0 pesum0 above orgs).worg.getD k 0 :=
  (organs_inv e gehalt lai0 laimax0 pesum0 above orgs).low k hk hlen

/-- **GEHMIN, GEHMAX > 0** for the nine coded variants, given the values of exp / pow lie in (0,1] (exp of a
non-positive argument; variants 3, 5, 7 only need > 0) and RGA > 0 (variant 5). -/
theorem C09_nfn_pos (i : NfnIn ℚ) (h1 : 1 ≤ i.ngefkt) (h9 : i.ngefkt ≤ 9) (htmin : 0 < i.tmin ∧ i.tmin ≤ 1)
    (htmax : 0 < i.tmax ∧ i.tmax ≤ 1) (hrga : 0 < i.rga) : 0 < (nfn i).1 ∧ 0 < (nfn i).2 := by
  obtain ⟨a0, a1⟩ := htmin
  obtain ⟨b0, b1⟩ := htmax
  have hk : i.ngefkt = 1 ∨ i.ngefkt = 2 ∨ i.ngefkt = 3 ∨ i.ngefkt = 4 ∨ i.ngefkt = 5 ∨ i.ngefkt = 6 ∨ i.ngefkt = 7 ∨
      i.ngefkt = 8 ∨ i.ngefkt = 9 := by omega
  -- every component is a positive constant, a positive multiple of `tmin` / `tmax` (plus a positive constant)
  -- or, in variant 2, of the form of `quad_pos`
  rcases hk with h | h | h | h | h | h | h | h | h <;> simp only [nfn, h, Nat.reduceEqDiff, ↓reduceIte] <;>
    refine ⟨?_, ?_⟩ <;> split_ifs <;> first | positivity | exact quad_pos (by norm_num) (by norm_num) ‹_› ‹_›

/-- GEHMIN ≤ GEHMAX in the variants whose two formulas share the transcendental value (3, 4, 7, 9) -/
theorem C09_nfn_ordered (i : NfnIn ℚ) (hk : i.ngefkt = 3 ∨ i.ngefkt = 4 ∨ i.ngefkt = 7 ∨ i.ngefkt = 9)
    (ht : i.tmin = i.tmax) (h0 : 0 ≤ i.tmin) : (nfn i).1 ≤ (nfn i).2 := by
  rw [ht] at h0
  -- early in the season two constants; later the shared value times the smaller factor (3, 7) or plus the smaller
  -- constant (4, 9)
  rcases hk with h | h | h | h <;> simp only [nfn, h, ht, Nat.reduceEqDiff, ↓reduceIte] <;>
    refine ite_of_both (fun p : ℚ × ℚ => p.1 ≤ p.2) _ (by norm_num) ?_
  · exact mul_le_mul_of_nonneg_right (by norm_num) h0
  · exact add_le_add_left (by norm_num) _
  · exact mul_le_mul_of_nonneg_right (by norm_num) h0
  · exact add_le_add_left (by norm_num) _

/-- **The assimilate pool, GTW and the daily GPP are never negative** — `C09_aspoo_nonneg_partial` without the
hypothesis 0 ≤ GPHOT: it follows from the input ranges of `radia`. -/
theorem C09_aspoo_nonneg (ri : RadiaIn ℚ) (rt : RadiaT ℚ) (e : OrganEnv ℚ) (aspoo gppsum gehalt laimax0 pesum0 : ℚ) (above : List ℕ)
    (orgs : List (OrganPar ℚ × ℚ × ℚ)) (wdorg : List ℚ) (r : RadiaRange { ri with lai := laiFloor ri.lai } rt)
    (ha : 0 ≤ aspoo) (hr : e.reduk ≤ 1) :
    0 ≤ (growDay ri rt e aspoo gppsum gehalt laimax0 pesum0 above orgs wdorg).gtw ∧
    0 ≤ (growDay ri rt e aspoo gppsum gehalt laimax0 pesum0 above orgs wdorg).org.aspoo ∧
    0 ≤ (growDay ri rt e aspoo gppsum gehalt laimax0 pesum0 above orgs wdorg).gppdaily := by
  have h := (C09_radia_gphot_maint_nonneg _ rt r).2.2
  refine ⟨add_nonneg h ha, C09_aspoo_nonneg_partial _ _ aspoo _ _ _ _ _ _ h ha rfl hr, ?_⟩
  simp only [growDay]
  positivity

/-- While the stage's temperature sum is not exceeded, with partitioning
coefficients that sum to 1 at both ends of the stage (checked at read time, cropparam.go `CheckPROSum`) and maintenance
shares that sum to 1 (`C09_radia_mant_unit`): the organ growth rates add up to 70 % of (GTW·REDUK − MAINT) — the other
30 % are growth respiration — and what N stress holds back goes to the pool: ASPOO' + GTW·REDUK = GTW. For every number
of organs, every state. -/
theorem C09_growth_balance (e : OrganEnv ℚ) (gehalt lai0 laimax0 pesum0 : ℚ) (above : List ℕ)
    (orgs : List (OrganPar ℚ × ℚ × ℚ)) (hstage : ¬ 1 < e.sumI / e.tsumI)
    (hp0 : (orgs.map (·.1.proPrev)).sum = 1) (hp1 : (orgs.map (·.1.proCur)).sum = 1) (hm : (orgs.map (·.1.mant)).sum = 1) :
    (organs e gehalt lai0 laimax0 pesum0 above orgs).gorg.sum = 0.7 * (e.gtw * e.reduk - e.maint) ∧
    (organs e gehalt lai0 laimax0 pesum0 above orgs).aspoo + e.gtw * e.reduk = e.gtw := by
  constructor
  · simp only [organs]
    rw [organLoop_gorg, List.nil_append, sum_rates e hstage, hp0, hp1, hm]
    ring
  · simp only [organs]; ring

/-- **The day's assimilate is fully accounted for**: new pool + maintenance + growth (incl. the 30 % growth respiration)
= GPHOT + old pool, with GPHOT, MAINT and the shares MANT produced by `radia` inside the model. -/
theorem C09_day_assimilate_balance (ri : RadiaIn ℚ) (rt : RadiaT ℚ) (e : OrganEnv ℚ) (aspoo gppsum gehalt laimax0 pesum0 : ℚ) (above : List ℕ)
    (orgs : List (OrganPar ℚ × ℚ × ℚ)) (wdorg : List ℚ) (hstage : ¬ 1 < e.sumI / e.tsumI)
    (hp0 : (orgs.map (·.1.proPrev)).sum = 1) (hp1 : (orgs.map (·.1.proCur)).sum = 1)
    (hlen : (radia { ri with lai := laiFloor ri.lai } rt).mant.length = orgs.length)
    (hm : (radia { ri with lai := laiFloor ri.lai } rt).mant.sum = 1) :
    (growDay ri rt e aspoo gppsum gehalt laimax0 pesum0 above orgs wdorg).org.aspoo
      + (growDay ri rt e aspoo gppsum gehalt laimax0 pesum0 above orgs wdorg).rad.maint
      + (growDay ri rt e aspoo gppsum gehalt laimax0 pesum0 above orgs wdorg).org.gorg.sum / 0.7
      = (growDay ri rt e aspoo gppsum gehalt laimax0 pesum0 above orgs wdorg).rad.gphot + aspoo := by
  simp only [growDay]
  set r := radia { ri with lai := laiFloor ri.lai } rt
  have hb := C09_growth_balance { e with gtw := r.gphot + aspoo, maint := r.maint } gehalt ri.lai laimax0 pesum0 above (withMant orgs r.mant)
    hstage (by rw [(withMant_pro orgs r.mant).1]; exact hp0) (by rw [(withMant_pro orgs r.mant).2]; exact hp1)
    (by rw [withMant_mant orgs r.mant hlen]; exact hm)
  obtain ⟨h1, h2⟩ := hb
  simp only at h1 h2
  rw [h1, mul_div_cancel_left₀ _ (by norm_num : (0.7 : ℚ) ≠ 0), add_add_sub_cancel]
  exact h2

/-- the dead mass of an organ stays strictly below its living mass (crop.go:499-502), for every organ and state -/
theorem C09_wdorg_below_worg (dt w wd d : ℚ) : wdorgUpd dt w wd d < w := by
  simp only [wdorgUpd]
  split_ifs with h
  · norm_num
  · linarith [not_le.mp h]

/-- The final demand DTGESN (after the clamp to [0, 6·DT] and the root-length cap) is at most 6·DT and
at most max(raw demand, 0). -/
theorem C09_demand_bounds (i : UptakeIn ℚ) (hdt : 0 ≤ i.dt) :
    (uptakeDay i).dtgesn ≤ 6.0 * i.dt ∧
    (uptakeDay i).dtgesn ≤ max (demandRaw i.beet i.active i.gehmax i.obmas i.wumas i.worg3 i.wgmax i.pesum i.dt) 0 := by
  have h := demandClamp_range i.dt (demandRaw i.beet i.active i.gehmax i.obmas i.wumas i.worg3 i.wgmax i.pesum i.dt) hdt
  exact ⟨le_trans (uptakeDay_dtgesn_le i) h.2.1, le_trans (uptakeDay_dtgesn_le i) h.2.2⟩

/-- **Every PE[i] of a rooted layer is ≥ 0 and at most the mineral N the code leaves available,
max(0, C1[i] − 0.75)** — for every number of layers, every state, demand, transpiration and diffusion number
(no hypothesis). The i-th PE belongs to the i-th soil layer. -/
theorem C09_pe_bounds (i : UptakeIn ℚ) :
    List.Forall₂ (fun p (s : SoilL ℚ) => 0 ≤ p ∧ p ≤ max 0 (s.c1 - 0.75)) (uptakeDay i).core.pe
      (i.soil.take (uptakeDay i).core.pe.length) := by
  rw [uptakeDay_pe_length, ← dayLayers_soil]
  -- the bound speaks of a layer through its mineral N only, which the triples carry from the soil layers
  have h : List.Forall₂ (fun p c => 0 ≤ p ∧ p ≤ max 0 (c - 0.75)) (uptakeDay i).core.pe
      ((massDiff i.dt i.dz 0 (dayLayers i)).map (·.1)) :=
    List.forall₂_map_right_iff.mpr (List.forall₂_map_left_iff.mpr
      (List.forall₂_same.mpr fun m _ => ⟨peOne_nonneg _ _ _ _, peOne_le_avail _ _ _ _⟩))
  rw [massDiff_c1] at h
  exact List.forall₂_map_right_iff.mpr (List.forall₂_map_right_iff.mp h)

/-- every entry of PE after the call is ≥ 0 when the entries before the call were (the day loop zeroes PE) -/
theorem C09_pe_nonneg (i : UptakeIn ℚ) (hold : ∀ p ∈ i.peOld, (0 : ℚ) ≤ p) : ∀ p ∈ (uptakeDay i).pe, 0 ≤ p := by
  intro p hp
  rw [uptakeDay_pe] at hp
  rcases List.mem_append.mp hp with h | h
  · exact uptakeCore_pe_nonneg _ _ _ _ _ _ _ p h
  · exact hold p (List.mem_of_mem_drop h)

/-- the number of layers that receive an uptake is at most int(min(WURZ, GRW)): the rooted layers above the groundwater -/
theorem C09_pe_rooted_count (i : UptakeIn ℚ) : (uptakeDay i).core.pe.length ≤ uptakeLayers i.eqs.length i.grw := by
  rw [uptakeDay_pe_length]; exact (dayLayers_prefix i).2

/-- **Outside the rooted layers PE is not touched**: for every index j ≥ int(min(WURZ, GRW)) the entry after the call is
the entry before the call. -/
theorem C09_pe_outside_rooted_unchanged (i : UptakeIn ℚ) (j : ℕ) (hj : uptakeLayers i.eqs.length i.grw ≤ j) :
    (uptakeDay i).pe.getD j 0 = i.peOld.getD j 0 := by
  have hk : (uptakeDay i).core.pe.length ≤ j := le_trans (C09_pe_rooted_count i) hj
  rw [uptakeDay_pe, List.getD_append_right _ _ _ _ hk, List.getD_eq_getElem?_getD, List.getElem?_drop,
    Nat.add_sub_cancel' hk, List.getD_eq_getElem?_getD]

/-- Outside the rooted layers PE is 0 after the call, because the day loop hands over PE = 0 (run.go:655-657). -/
theorem C09_pe_outside_rooted_zero (i : UptakeIn ℚ) (hold : ∀ p ∈ i.peOld, p = (0 : ℚ)) (j : ℕ)
    (hj : uptakeLayers i.eqs.length i.grw ≤ j) : (uptakeDay i).pe.getD j 0 = 0 := by
  rw [C09_pe_outside_rooted_unchanged i j hj]
  exact getD_of_all hold rfl j

/-- the summed uptake is never negative -/
theorem C09_sumpe_nonneg (i : UptakeIn ℚ) : 0 ≤ (uptakeDay i).core.sumpe := by
  have := List.sum_nonneg (uptakeCore_pe_nonneg i.legum i.dt i.dz (uptakeDay i).dtgesn i.massum i.diffsum (dayLayers i))
  simpa only [uptakeDay_core, uptakeCore, sumFrom_eq, zero_add] using this

/-- **Σ PE ≤ the day's demand max(DTGESN, 0)** for every number of layers, every demand, every root distribution and
every value of the transcendental inputs, on a valid soil state: water uptake ≥ 0, mineral N ≥ 0 and water content > 0 in
every soil layer handed to the routine. (The mass-flow terms are then ≥ 0; the diffusion terms are ≥ 0 by their floor —
in the code before the repair "fix: negative diffusion terms no longer raise the N uptake of the other layers above the
crop demand" a layer below the concentration 0.000014 makes the sum exceed the demand.) -/
theorem C09_sumpe_le_demand (i : UptakeIn ℚ) (hdt : 0 ≤ i.dt) (hdz : 0 < i.dz)
    (hs : ∀ s ∈ i.soil, 0 ≤ s.tp ∧ 0 ≤ s.c1 ∧ 0 < s.wg) : (uptakeDay i).core.sumpe ≤ max (uptakeDay i).dtgesn 0 := by
  simp only [uptakeDay_core, uptakeCore, trnsumOf, sumdiffOf, sumFrom_eq, zero_add]
  exact sum_peOne_le _ _ (massDiff_nonneg i.dt i.dz hdt hdz _ 0 (dayLayers_ok i hs))

/-- the diffusion term of a rooted layer is never negative (crop.go:696-699), whatever the state -/
theorem C09_diff_nonneg (dt : ℚ) (l : ULayer ℚ) : 0 ≤ diffOf dt l := diffOf_nonneg dt l

/-- root length density is never negative -/
theorem C09_wudich_nonneg (i : UptakeIn ℚ) (hdz : 0 < i.dz) : ∀ w ∈ (uptakeDay i).wudich, (0 : ℚ) ≤ w := by
  intro w hw
  simp only [uptakeDay, List.mem_map] at hw
  obtain ⟨x, hx, rfl⟩ := hw
  exact rootLayers_nonneg i.beet i.wumas i.dz hdz i.eqs 1 0 x hx

/-- the state on which the code before the repair named at `C09_sumpe_le_demand` exceeds the demand: two rooted layers, no transpiration, the upper one
rich in mineral N, the lower one without (its raw diffusion term is negative), demand 3/1000 -/
def failLower : ULayer ℚ := { c1 := 0, tp := 0, wg := 1/5, ad := 1/500, wrad := 1/100, wudich := 1, ewg := 7, sq := 2 }
def failLayers : List (ULayer ℚ) :=
  [{ c1 := 50, tp := 0, wg := 1/5, ad := 1/500, wrad := 1/100, wudich := 1, ewg := 7, sq := 2 }, failLower]

/-- regression: with the floor on DIFF the upper layer receives exactly the demand, the lower one nothing, and a
legume fixes nothing (the code before the repair gives SUMPE > 3/1000 and NFIX < 0 here; signatures
`cropday:uptake:sum-exceeds-demand:negative-diffusion-term`, `fixation:negative-amount`). Replayed on the real PhytoOut
by the check (`c09DayWitness`). -/
example : diffRaw 1 failLower < 0 ∧ (∀ l ∈ failLayers, LayerOk l) ∧
    (uptakeCore true 1 10 (3/1000) 0 0 failLayers).sumpe = 3/1000 ∧
    (uptakeCore true 1 10 (3/1000) 0 0 failLayers).nfix = 0 := by
  refine ⟨by decide +kernel, ?_, by decide +kernel, by decide +kernel⟩
  intro l hl
  simp only [failLayers, failLower, List.mem_cons, List.mem_nil_iff, or_false] at hl
  rcases hl with h | h <;> rw [h] <;> constructor <;> decide +kernel

/-- **N fixation lies in [0, 0.74·max(DTGESN, 0)]** on a valid soil state (it is 0 for a crop that is not a legume). -/
theorem C09_nfix_range (i : UptakeIn ℚ) (hdt : 0 ≤ i.dt) (hdz : 0 < i.dz)
    (hs : ∀ s ∈ i.soil, 0 ≤ s.tp ∧ 0 ≤ s.c1 ∧ 0 < s.wg) :
    0 ≤ (uptakeDay i).core.nfix ∧ (uptakeDay i).core.nfix ≤ 0.74 * max (uptakeDay i).dtgesn 0 := by
  have hn : (uptakeDay i).core.nfix = nfixOf i.legum (uptakeDay i).dtgesn (uptakeDay i).core.sumpe := by
    simp only [uptakeDay_core, uptakeCore]  -- not `rfl`: the check would unfold `uptakeDay`
  rw [hn]
  cases hl : i.legum
  · simp only [nfixOf, Bool.false_eq_true, if_false]
    exact ⟨le_refl _, mul_nonneg (by norm_num) (le_max_right _ _)⟩
  · -- a legume: the demand is not capped by the root length, so it is ≥ 0 and covers the uptake
    have hd := uptakeDay_dtgesn_legum i hl hdt
    have hsum := C09_sumpe_le_demand i hdt hdz hs
    rw [max_eq_left hd] at hsum ⊢
    exact nfixOf_range true _ _ hd hsum

/-- **Crop N after the uptake does not exceed the maximum N content**: PESUM + SUMPE ≤ max(PESUM, GEHMAX·OBMAS +
WUMAS·WGMAX) (for ZR / K the storage organ counts to the root term), 0 ≤ DT ≤ 1, valid soil state. -/
theorem C09_cropN_le_max (i : UptakeIn ℚ) (hdt : 0 ≤ i.dt) (hdt1 : i.dt ≤ 1) (hdz : 0 < i.dz)
    (hs : ∀ s ∈ i.soil, 0 ≤ s.tp ∧ 0 ≤ s.c1 ∧ 0 < s.wg) :
    i.pesum + (uptakeDay i).core.sumpe ≤
      max i.pesum (if i.beet then i.gehmax * i.obmas + (i.wumas + i.worg3) * i.wgmax else i.gehmax * i.obmas + i.wumas * i.wgmax) := by
  have hsum := C09_sumpe_le_demand i hdt hdz hs
  have h := (C09_demand_bounds i hdt).2
  set target := (if i.beet then i.gehmax * i.obmas + (i.wumas + i.worg3) * i.wgmax else i.gehmax * i.obmas + i.wumas * i.wgmax) with ht
  have hraw : demandRaw i.beet i.active i.gehmax i.obmas i.wumas i.worg3 i.wgmax i.pesum i.dt ≤ max ((target - i.pesum) * i.dt) 0 := by
    have e : demandRaw i.beet i.active i.gehmax i.obmas i.wumas i.worg3 i.wgmax i.pesum i.dt =
        if i.active then (target - i.pesum) * i.dt else 0 := by
      simp only [demandRaw, ht]; split_ifs <;> rfl
    rw [e]
    exact ite_of_both (· ≤ max ((target - i.pesum) * i.dt) 0) _ (le_max_left _ _) (le_max_right _ _)
  -- a share DT ≤ 1 of the gap to the target, and P + max (T − P) 0 = max P T
  have h3 : (target - i.pesum) * i.dt ≤ max (target - i.pesum) 0 :=
    le_trans (mul_le_mul_of_nonneg_right (le_max_left _ 0) hdt) (mul_le_of_le_one_right (le_max_right _ _) hdt1)
  have h4 : (uptakeDay i).core.sumpe ≤ max (target - i.pesum) 0 :=
    le_trans hsum (max_le (le_trans h (max_le (le_trans hraw (max_le h3 (le_max_right _ _))) (le_max_right _ _)))
      (le_max_right _ _))
  have e : i.pesum + max (target - i.pesum) 0 = max i.pesum target := by
    rw [← max_add_add_left, add_sub_cancel, add_zero, max_comm]
  exact (add_le_add_right h4 _).trans_eq e

/-- a C4 crop at 25 °C, CO2 method 2, on a day with 14 h daylight: the hypotheses `RadiaRange` are satisfiable (the
consequents of the function-range hypotheses hold for the values chosen) -/
def exRadiaIn : RadiaIn ℚ :=
  { dl := 14, dle := 12, dlp := 15, rdn := 40000, drc := 20000000, co2meth := 2, temptyp := 2, co2konz := 360, temp := 25,
    mintmp := 6, maxamax := 50, rad := 8, sund := 0, lai := 2, lured := 1, trrel := 1, dryswell := 0.8, vswellOne := true,
    dt := 1, radsum := 0, parsum := 0, pariOld := 0, worg := [400, 600, 300], mairt := [0.01, 0.03, 0.015], mantOld := [0, 0, 0] }
def exRadiaT : RadiaT ℚ :=
  { pow2co := 3, ktvmax := 1, ktkc := 1, ktko := 1, t2 := 625, t3 := 15625, cosSC := 1/2, sslae := 4/5, logX := 1, logY := 1/2,
    e8 := 1/5, eC := 1/10, eO := 1/10, teff := 1 }

example : RadiaRange exRadiaIn exRadiaT := by constructor <;> decide +kernel

/-- on `exRadiaIn`, `exRadiaT` the photosynthesis is really positive and larger than the maintenance (not the 0 = 0 case) -/
example : 0 < (radia exRadiaIn exRadiaT).maint ∧ (radia exRadiaIn exRadiaT).maint < (radia exRadiaIn exRadiaT).gphot := by
  decide +kernel

/-- `C09_sumpe_le_demand` is not vacuous: a state with N in every layer, demand 3/1000, uptake > 0 -/
def okLayers : List (ULayer ℚ) :=
  [{ c1 := 50, tp := 1/100, wg := 1/5, ad := 1/500, wrad := 1/100, wudich := 1, ewg := 7, sq := 2 },
   { c1 := 20, tp := 1/100, wg := 1/5, ad := 1/500, wrad := 1/100, wudich := 1, ewg := 7, sq := 2 }]
example : (∀ l ∈ okLayers, LayerOk l) ∧ (uptakeCore false 1 10 (3/1000) 0 0 okLayers).sumpe = 3/1000 := by
  refine ⟨?_, by decide +kernel⟩
  intro l hl
  simp only [okLayers, List.mem_cons, List.mem_nil_iff, or_false] at hl
  rcases hl with h | h <;> rw [h] <;> constructor <;> decide +kernel

/-- the hypotheses of the growth balance are satisfiable (two organs, mid-stage) -/
example : ¬ (1 : ℚ) < 100 / 200 ∧ (([0.6, 0.4] : List ℚ).sum = 1) ∧ (([0.25, 0.75] : List ℚ).sum = 1) := by norm_num

/-- the N-content functions: variant 1 late in the season with exp values 1/4 -/
def exNfn : NfnIn ℚ :=
  { ngefkt := 1, wrsg := false, phyllo := 900, obmas := 5000, worg3 := 0, org := 0, rga := 0.045, tendsum := 1400,
    gehminOld := 0, gehmaxOld := 0, tmin := 1/4, tmax := 1/4 }
example : nfn exNfn = ((5.5 * (1/4) / 100.0 : ℚ), (8.1 * (1/4) / 100.0 : ℚ)) := by
  decide +kernel

end Hermes.CropDay
