/-
C09 — crop state stays valid and development never runs backwards.  Model: HermesModel/Crop.lean (`PhytoOut`,
hermes/crop.go), exact arithmetic over ℚ.  Partial property (DESIGN §8): what depends on the magnitudes produced by
the photosynthesis formulas (`radia`: GPHOT, MAINT), on `exp` and on the N uptake is proved only relative to named
hypotheses (`…_partial`, `C09_gehob_nonneg`); those magnitudes are observed by the search stage on whole simulations.
Reading of the phenology clause: the recorded day of a stage is the label of the day on which the stage index is
incremented; the theorem is stated for any strictly increasing labelling of the days between sowing and harvest (the
day number ZEIT, i.e. dates) — the day-of-year columns of the crop result file wrap at a year change and are compared
as dates by the check.
-/
import HermesProofs.Crop
namespace Hermes.Crop

/-- One call of the stage machine, for any increments: the stage index stays or grows by exactly one, the returned
flag says which; when it stays, no recorded day changes. -/
theorem C09_stage_step_monotone (nrentw day : ℕ) (tsum : List ℚ) (e : Option ℚ) (d : ℕ → Option ℚ) (s : Stage ℚ) :
    s.intwick ≤ (stageStep nrentw day tsum e d s).1.intwick ∧
    (stageStep nrentw day tsum e d s).1.intwick ≤ s.intwick + 1 ∧
    ((stageStep nrentw day tsum e d s).2 = true ↔ (stageStep nrentw day tsum e d s).1.intwick = s.intwick + 1) ∧
    ((stageStep nrentw day tsum e d s).2 = false → (stageStep nrentw day tsum e d s).1.dev = s.dev) := by
  rcases stageStep_cases nrentw day tsum e d s with ⟨h1, h2, h3⟩ | ⟨_, h1, _, h3⟩
  · simp [h1, h2, h3]
  · simp [h1, h3]

/-- The stage part of a day of `PhytoOut` as coded (increment formulas, vernalisation, photoperiod,
stress acceleration inside) is the stage machine applied to that day's increments. -/
theorem C09_stage_day_is_step (i : DayIn ℚ) (s : Stage ℚ) :
    (stageDay i s).st =
      (stageStep i.nrentw i.doy i.tsum
        (if s.intwick = 0 then emergInc i.temp (i.bas.getD 0 0) i.wg0 i.w0 i.wmin0 i.dt else none)
        (fun k => dayIncrement i.temp (i.bas.getD k 0) (vernFactor i.verntage (i.vschwell.getD k 0) i.temp i.dt).2
          (fpFactor i.dlp (i.dayl.getD k 0) (i.dlbas.getD k 0))
          (devProg i.noNAccel i.reduk i.trrel (i.dryswell.getD k 0) i.lured) i.dt) s).1 := by
  simp only [stageDay, stageStep]
  split_ifs <;> rfl

/-- **Development never runs backwards.** Over the days between sowing and harvest (any number of
days, labelled by strictly increasing day numbers ≥ the sowing day ≥ 1 and ≤ the harvest day), for
every sequence of daily increments whatsoever, starting in the first stage: the stage index advances at most
once per day (that it never decreases is `C09_stage_index_nondecreasing`), every recorded stage day lies between
sowing and harvest, and the recorded days increase strictly with the stage — so sowing ≤ emergence (stage 1) ≤
anthesis (stage 4) ≤ maturity (stage 5) ≤ harvest. -/
theorem C09_stage_monotone (nrentw sow harvest : ℕ) (tsum : List ℚ)
    (days : List (ℕ × Option ℚ × (ℕ → Option ℚ))) (s0 : Stage ℚ)
    (hlen : nrentw ≤ s0.dev.length) (h0 : s0.intwick = 0) (hsow : 1 ≤ sow)
    (hdays : ∀ x ∈ days, sow ≤ x.1 ∧ x.1 ≤ harvest) (hinc : days.Pairwise (fun a b => a.1 < b.1)) :
    (run nrentw tsum days s0).intwick ≤ days.length ∧
    (∀ i, 1 ≤ i → i ≤ (run nrentw tsum days s0).intwick →
        sow ≤ (run nrentw tsum days s0).dev.getD i 0 ∧ (run nrentw tsum days s0).dev.getD i 0 ≤ harvest) ∧
    (∀ i j, 1 ≤ i → i < j → j ≤ (run nrentw tsum days s0).intwick →
        (run nrentw tsum days s0).dev.getD i 0 < (run nrentw tsum days s0).dev.getD j 0) := by
  have hrec0 : Recorded s0 sow 0 := ⟨fun i h1 h2 => by omega, fun i j h1 h2 h3 => by omega⟩
  have hR := run_recorded nrentw sow harvest tsum days s0 0 hlen hrec0 (Nat.zero_le _)
    (fun x hx => ⟨by have := (hdays x hx).1; omega, hdays x hx⟩) hinc
  have hI := run_intwick_bounds nrentw tsum days s0
  exact ⟨by omega, hR.1, hR.2⟩

/-- prefix form: the stage index after any prefix of the season is ≤ the index after the whole season
(INTWICK is non-decreasing along the season). -/
theorem C09_stage_index_nondecreasing (nrentw : ℕ) (tsum : List ℚ)
    (d1 d2 : List (ℕ × Option ℚ × (ℕ → Option ℚ))) (s0 : Stage ℚ) :
    (run nrentw tsum d1 s0).intwick ≤ (run nrentw tsum (d1 ++ d2) s0).intwick := by
  rw [run_append]
  exact (run_intwick_bounds nrentw tsum d2 _).1

/-- vernalisation factor FV ∈ [0,1] for every temperature history -/
theorem C09_fv_unit (verntage vschwell temp dt : ℚ) :
    0 ≤ (vernFactor verntage vschwell temp dt).2 ∧ (vernFactor verntage vschwell temp dt).2 ≤ 1 := by
  simp only [vernFactor]
  split_ifs
  · exact vern_unit _ _ _ _
  · simp

/-- photoperiod factor FP ∈ [0,1] for every day length and every parameter pair -/
theorem C09_fp_unit (dlp dayl dlbas : ℚ) : 0 ≤ fpFactor dlp dayl dlbas ∧ fpFactor dlp dayl dlbas ≤ 1 := by
  simp only [fpFactor]
  exact clamp01_unit _

/-- the development acceleration is ≥ 1 for every value of the stress factors -/
theorem C09_devprog_ge_one (f : Bool) (reduk trrel dryswell lured : ℚ) : 1 ≤ devProg f reduk trrel dryswell lured := by
  simp only [devProg]
  rw [fmax_eq_max]
  refine le_max_of_le_left (ite_of_both (1 ≤ ·) _ le_rfl ?_)
  exact le_add_of_nonneg_right (mul_self_nonneg _)

/-- **The thermal increment of a day is never negative**, for every temperature, every vernalisation
state, day length, stress factors and parameters: below the base temperature nothing is added; above
it the product (TEMP − BAS)·FV·FP·devprog·DT has non-negative factors (FV, FP ∈ [0,1], devprog ≥ 1). -/
theorem C09_increment_nonneg (temp bas verntage vschwell dlp dayl dlbas reduk trrel dryswell lured dt x : ℚ)
    (f : Bool) (hdt : 0 ≤ dt)
    (h : dayIncrement temp bas (vernFactor verntage vschwell temp dt).2 (fpFactor dlp dayl dlbas)
          (devProg f reduk trrel dryswell lured) dt = some x) : 0 ≤ x := by
  simp only [dayIncrement] at h
  split_ifs at h with hb
  cases h
  exact thermalInc_nonneg _ _ _ _ _ _ hb (C09_fv_unit _ _ _ _).1 (C09_fp_unit _ _ _).1 (C09_devprog_ge_one _ _ _ _ _) hdt

/-- the pre-emergence increment is never negative for a non-negative water content of the top layer
and a non-negative moisture threshold 0.3·(FC − WP) + WP -/
theorem C09_emergence_increment_nonneg (temp bas wg0 w0 wmin0 dt x : ℚ) (hwg : 0 ≤ wg0)
    (hthr : 0 ≤ 0.3 * (w0 - wmin0) + wmin0) (hdt : 0 ≤ dt) (h : emergInc temp bas wg0 w0 wmin0 dt = some x) : 0 ≤ x := by
  have hq := div_nonneg hwg hthr
  simp only [emergInc] at h
  split_ifs at h with h1 h2
  · -- moist top layer: (TEMP − BAS)·DT
    cases h
    have := sub_nonneg.2 h1.le
    positivity
  · -- dry top layer: reduced by the factor WG/threshold ≥ 0
    cases h
    have := sub_nonneg.2 h1.le
    positivity

/-- **Organ masses are never negative after the update** — for every state before the call, every
growth / death / maintenance number (no sign or size hypothesis at all), any number of organs. -/
theorem C09_organs_nonneg (e : OrganEnv ℚ) (gehalt lai0 laimax0 pesum0 : ℚ) (above : List ℕ)
    (orgs : List (OrganPar ℚ × ℚ × ℚ)) :
    (∀ w ∈ (organs e gehalt lai0 laimax0 pesum0 above orgs).worg, (0 : ℚ) ≤ w) ∧
    (organs e gehalt lai0 laimax0 pesum0 above orgs).worg.length = orgs.length :=
  ⟨(organs_inv e gehalt lai0 laimax0 pesum0 above orgs).nonneg, (organs_inv e gehalt lai0 laimax0 pesum0 above orgs).len⟩

/-- **LAI is never negative after the update** (unconditionally). -/
theorem C09_lai_nonneg (e : OrganEnv ℚ) (gehalt lai0 laimax0 pesum0 : ℚ) (above : List ℕ)
    (orgs : List (OrganPar ℚ × ℚ × ℚ)) : 0 ≤ (organs e gehalt lai0 laimax0 pesum0 above orgs).lai :=
  (organs_inv e gehalt lai0 laimax0 pesum0 above orgs).lai

/-- **Above-ground biomass (sum of the listed organs) is never negative** (unconditionally). -/
theorem C09_obmas_nonneg (e : OrganEnv ℚ) (gehalt lai0 laimax0 pesum0 : ℚ) (above : List ℕ)
    (orgs : List (OrganPar ℚ × ℚ × ℚ)) : 0 ≤ (organs e gehalt lai0 laimax0 pesum0 above orgs).obmas :=
  obmas_nonneg above _ (organs_inv e gehalt lai0 laimax0 pesum0 above orgs).nonneg

/-- Assimilate pool: non-negative **relative to** 0 ≤ GPHOT (photosynthesis of the day, from `radia`),
0 ≤ ASPOO before, REDUK ≤ 1. Missing for a full statement: 0 ≤ GPHOT < ∞ is a fact about the
magnitudes of the photosynthesis formulas (exp, log, sin) — observed by the search, not proved. -/
theorem C09_aspoo_nonneg_partial (e : OrganEnv ℚ) (gphot aspoo0 gehalt lai0 laimax0 pesum0 : ℚ) (above : List ℕ)
    (orgs : List (OrganPar ℚ × ℚ × ℚ)) (hg : 0 ≤ gphot) (ha : 0 ≤ aspoo0) (hgtw : e.gtw = gphot + aspoo0)
    (hr : e.reduk ≤ 1) : 0 ≤ (organs e gehalt lai0 laimax0 pesum0 above orgs).aspoo := by
  simp only [organs, hgtw, zero_add]
  exact mul_nonneg (add_nonneg hg ha) (sub_nonneg.2 hr)

/-- In the branch that calls `exp` (MININ < GEHOB < GEHMIN) the exponent 1 + 1/(AUX − 1) is < 0,
so that e = exp(…) ∈ (0,1): the hypothesis of `C09_reduk_unit` is exactly the range of `exp` there. -/
theorem C09_reduk_exponent_neg (ngefkt : ℕ) (gehob gehmin : ℚ) (h1 : minin ngefkt < gehob) (h2 : gehob < gehmin) :
    redukExponent ngefkt gehob gehmin < 0 := by
  have hd : 0 < gehmin - minin ngefkt := by linarith
  -- 0 < AUX < 1, so 1/(AUX − 1) < −1
  have ha0 : 0 < aux ngefkt gehob gehmin := div_pos (sub_pos.2 h1) hd
  have ha1 : aux ngefkt gehob gehmin < 1 := (div_lt_one hd).2 (by linarith)
  have : 1 / (aux ngefkt gehob gehmin - 1) < -1 := by rw [div_lt_iff_of_neg (by linarith)]; linarith
  simp only [redukExponent]
  linarith

/-- **REDUK ∈ [0,1]** for every N concentration and every critical concentration, given the value
e of `exp` lies in (0,1] (its range for a non-positive argument). -/
theorem C09_reduk_unit (ngefkt : ℕ) (gehob gehmin e : ℚ) (he0 : 0 < e) (he1 : e ≤ 1) :
    0 ≤ reduk ngefkt gehob gehmin e ∧ reduk ngefkt gehob gehmin e ≤ 1 := by
  simp only [reduk]
  split_ifs
  · exact ⟨le_refl _, zero_le_one⟩
  · have h := sub_le_self 1 he0.le
    exact ⟨mul_self_nonneg _, mul_le_one₀ h (sub_nonneg.2 he1) h⟩
  · exact ⟨zero_le_one, le_refl _⟩

/-- **1 ≤ WURZ ≤ min(N, root limit)** for every root distribution coefficient Qrez, every soil root
depth WURZMAX, every crop scaling WUMAXPF, profile of N ≥ 1 layers of thickness 0 < DZ ≤ 12 cm
(HERMES: 10): the root limit is WURM = max(1, min(N, round(WURZMAX·WUMAXPF/11))). The float
truncation `int(…)` of the code can only lower the value. -/
theorem C09_root_depth_le (wurzmax n : ℕ) (wumaxpf dz qrez : ℚ) (hn : 1 ≤ n) (hdz : 0 < dz) (hdz2 : dz ≤ 12) :
    1 ≤ rootDepth wurzmax n wumaxpf dz qrez ∧ rootDepth wurzmax n wumaxpf dz qrez ≤ n ∧
    ((rootDepth wurzmax n wumaxpf dz qrez : ℕ) : ℚ) ≤ rootLimit wurzmax n wumaxpf ∧
    rootLimit wurzmax n wumaxpf ≤ max 1 ((Conv.roundNat ((wurzmax : ℚ) * (wumaxpf / 11.0)) : ℕ) : ℚ) := by
  have hb := qrezClamp_bounds qrez (rootLimit wurzmax n wumaxpf) dz (rootLimit_ge_one _ _ _) hdz hdz2
  -- `int(x)` is the floor in ℕ
  have hrd : rootDepth wurzmax n wumaxpf dz qrez = ⌊4.5 / qrezClamp qrez (rootLimit wurzmax n wumaxpf) dz / dz⌋₊ :=
    Int.floor_toNat _
  have hq : ((rootDepth wurzmax n wumaxpf dz qrez : ℕ) : ℚ) ≤ rootLimit wurzmax n wumaxpf := by
    rw [hrd]; exact le_trans (Nat.floor_le (le_trans zero_le_one hb.1)) hb.2
  refine ⟨by rw [hrd]; exact Nat.le_floor (by simpa using hb.1), ?_, hq, rootLimit_le_round _ _ _⟩
  exact_mod_cast le_trans hq (rootLimit_le wurzmax n wumaxpf hn)

/-- root N concentration after a day with root growth (either branch): ≥ 0.005 and ≤ max(WGMAX, 0.005) -/
theorem C09_wugeh_bounds (wumalt wumas guardv denom wugeh uptake wgmax : ℚ) (hgrow : wumalt < wumas) :
    0.005 ≤ wugehCore wumalt wumas guardv denom wugeh uptake wgmax ∧
    wugehCore wumalt wumas guardv denom wugeh uptake wgmax ≤ max wgmax 0.005 := by
  rw [wugehCore_grow _ _ _ _ _ _ _ hgrow]
  exact ⟨le_max_right _ _, max_le_max_right _ (min_le_right _ _)⟩

/-- **Tissue N concentration of the above-ground mass is never negative.** The root's share of the uptake is
min(1, ΔWUMAS/(ΔOBMAS+ΔWUMAS)) (repair "fix: limit the root's share of the daily N uptake to 1"), so the share needs
no hypothesis. The hypotheses, each a fact about magnitudes the model does not produce (they are observed by the search):
* `ho`    OBMAS > 0 after the day (the leaf floor gives ≥ 0.1 kg/ha as long as the leaf is listed);
* `hw`,`hg` root mass > 0, root N concentration ≥ 0 before the day;
* `hu`    the day's uptake SUMPE + NFIX ≥ 0 (uptake formulas: transport / diffusion with exp, sqrt);
* `hroot` crop N after the deduction for dead leaves and stems still covers the root N of the day
          before (PESUM ≥ WUMALT·WUGEH; the deduction 0.7·DGORG·GEHALT depends on the death rates);
* `hfloor` the floor 0.005 on WUGEH is not more than the crop owns (0.005·WUMAS ≤ PESUM + uptake) —
          the floor credits N to the root that was never taken up;
* `hstall` on a day on which the root grows but tops + root together do not (guard false), WUGEH is kept
          and the root N grows by ΔWUMAS·WUGEH without uptake: it must stay within crop N. -/
theorem C09_gehob_nonneg (wumalt wumas obalt obmas wugeh sumpe nfix wgmax pesum : ℚ)
    (ho : 0 < obmas) (hw : 0 < wumas) (hg : 0 ≤ wugeh) (hu : 0 ≤ sumpe + nfix) (hroot : wumalt * wugeh ≤ pesum)
    (hfloor : 0.005 * wumas ≤ pesum + (sumpe + nfix))
    (hstall : wumalt < wumas → ¬ 0 < obmas - obalt + wumas - wumalt → wumas * wugeh ≤ pesum + (sumpe + nfix)) :
    0 ≤ gehobUpdate pesum sumpe nfix wumas (wugehUpdate wumalt wumas obalt obmas wugeh sumpe nfix wgmax) obmas := by
  have h := wugehCore_rootN_le wumalt wumas (obmas - obalt + wumas - wumalt) (obmas - obalt + wumas - wumalt) wugeh
    (sumpe + nfix) wgmax pesum hw hg hu hroot hfloor hstall
  simp only [gehobUpdate, wugehUpdate]
  exact div_nonneg (by linarith) (le_of_lt ho)

/-- `C09_gehob_nonneg` for sugar beet / potato (storage organ in the reference mass, no fixation) -/
theorem C09_gehob_nonneg_beet (wumalt wumas obalt obmas worg3 wugeh sumpe wgmax pesum : ℚ)
    (ho : 0 < obmas + worg3) (hw : 0 < wumas) (hg : 0 ≤ wugeh) (hu : 0 ≤ sumpe) (hroot : wumalt * wugeh ≤ pesum)
    (hfloor : 0.005 * wumas ≤ pesum + sumpe)
    (hstall : wumalt < wumas → ¬ 0 < obmas - obalt + wumas - wumalt → wumas * wugeh ≤ pesum + sumpe) :
    0 ≤ gehobBeet pesum sumpe wumas (wugehBeet wumalt wumas obalt obmas worg3 wugeh sumpe wgmax) obmas worg3 := by
  have h := wugehCore_rootN_le wumalt wumas (obmas - obalt + wumas - wumalt) (obmas + worg3 - obalt + wumas - wumalt) wugeh
    sumpe wgmax pesum hw hg hu hroot hfloor hstall
  simp only [gehobBeet, wugehBeet]
  exact div_nonneg (by linarith) (le_of_lt ho)

/-- the state on which the code before the repair named at `C09_gehob_nonneg` gives GEHOB < 0 (root +10, tops −9, uptake 0.5, share 10; signature
`crop:WRA:negative:GEHOB`): with the share capped at 1 the root gets the whole uptake and GEHOB = 0.5/91 -/
example : wugehUpdate (100 : ℚ) 110 100 91 0.01 0.5 0 0.02 = 1.5 / 110 ∧
    gehobUpdate (1.5 : ℚ) 0.5 0 110 (wugehUpdate (100 : ℚ) 110 100 91 0.01 0.5 0 0.02) 91 = 0.5 / 91 := by
  decide +kernel

/-- a wheat-like season of five days in which stages 1 and 2 are reached (emergence on day 275, the
next stage on day 277): the hypotheses of `C09_stage_monotone` are satisfiable and the run really advances -/
def exDays : List (ℕ × Option ℚ × (ℕ → Option ℚ)) :=
  [(274, some 80, fun _ => some 10), (275, some 80, fun _ => some 150), (276, none, fun _ => some 150),
   (277, none, fun _ => none), (278, none, fun _ => some 5)]
def exStage : Stage ℚ := { intwick := 0, sum := [0, 0, 0, 0], dev := [0, 0, 0, 0] }
def exTsum : List ℚ := [148, 284, 260, 180]

example : (run 4 exTsum exDays exStage).intwick = 2 ∧ (run 4 exTsum exDays exStage).dev = [0, 275, 277, 0] := by
  decide +kernel

example : (4 : ℕ) ≤ exStage.dev.length ∧ exStage.intwick = 0 ∧
    (∀ x ∈ exDays, 274 ≤ x.1 ∧ x.1 ≤ 300) ∧ exDays.Pairwise (fun a b => a.1 < b.1) := by
  decide +kernel

/-- the increment is really positive on a warm day (not the vacuous `none` case) -/
example : dayIncrement (15 : ℚ) 1 (vernFactor 60 45 15 1).2 (fpFactor 14 20 0) (devProg false 0.5 1 0.8 1) 1 = some (49/4) := by
  decide +kernel

/-- REDUK in the `exp` branch with e = 1/2 -/
example : reduk 1 (0.02 : ℚ) 0.04 (1 / 2) = 1 / 4 ∧ minin 1 < (0.02 : ℚ) := by
  decide +kernel

/-- the hypotheses of `C09_root_depth_le` on a 15-layer profile with DZ = 10 -/
example : (1 : ℕ) ≤ 15 ∧ (0 : ℚ) < 10 ∧ (10 : ℚ) ≤ 12 := by norm_num

/-- an organ that would go negative is floored (leaf: 0.1, storage organ: 0) -/
example : (updLow (1 : ℚ) 5 0 20).1 = 0.1 ∧ (updHigh (1 : ℚ) true 5 0 20 0 0 0).1 = 0 := by
  decide +kernel

/-- hypotheses of `C09_gehob_nonneg` are satisfiable (the state root +10, tops −9, uptake 0.5 of the example under `C09_gehob_nonneg_beet`) -/
example : (0 : ℚ) < 91 ∧ (0 : ℚ) < 110 ∧ (0 : ℚ) ≤ 0.01 ∧ (0 : ℚ) ≤ 0.5 + 0 ∧ (100 : ℚ) * 0.01 ≤ 1.5 ∧
    (0.005 : ℚ) * 110 ≤ 1.5 + (0.5 + 0) ∧ (0 : ℚ) < 91 - 100 + 110 - 100 := by norm_num

end Hermes.Crop
