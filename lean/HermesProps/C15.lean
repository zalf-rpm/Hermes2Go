/-
C15 — Soil hydraulic parameters are physically ordered for every parameter source.

Model: HermesModel/SoilParams.lean (hermes/input.go:193-292, 1150-1187, 1227-1452, init.go:90-109,
run.go:377-428), HYPAR.TRU / PARCAP.TRU from HermesModel/Generated/HyparFacts.lean (regenerated from
the repository on every run).  All statements are exact-arithmetic (ℚ) statements about the model.

Reading of the property.  "Ordered" for a layer: 0 < WMIN < W ≤ PORGES < 1.  "Below the groundwater
table": the layer lies entirely below it (its upper edge `i` dm, 0-based index `i`, is ≥ the level).
"The parameters the simulation actually uses": the state the day loop works with after the daily
groundwater update (`dayState`).

F7 (WRED from fractions at two call sites) and F15 (WRED of the table route without the stone factor) are
repaired in the repository; the model follows the repaired code and `C15_wred_between_*` hold for every
call site.  What the code still does NOT satisfy is stated as `…_fails_at` theorems (each witness is
replayed on the implementation by harness/cmd/check/c15.go):
  F17  the organic-matter correction of `Hydro` lifts FC above PS on the 846 cells listed in
       `fcGtPsFrom`;                                    `C15_table_fc_gt_ps_fails_at`
  F16  the pedotransfer routes never compare their FC with the pore volume of the soil file;
                                                        `C15_ptf_fc_gt_ps_fails_at`
  F8   the state before the first groundwater change is built differently;
                                                        `C15_first_state_differs_fails_at`
-/
import HermesProofs.SoilParamsGw
import HermesProofs.SoilParamsTable
import HermesProofs.SoilParamsPtf
import HermesProofs.Ptf4Cert
import HermesProofs.SourceTie
namespace Hermes.SoilParams

/-- Explicit values of the soil file (percent) with 0 < WP < FC ≤ PS < 100 give an ordered layer. -/
theorem C15_explicit_ordered (fka wp gpv : ℚ) (h0 : 0 < wp) (h1 : wp < fka) (h2 : fka ≤ gpv) (h3 : gpv < 100) :
    Ordered (explicitLayer fka wp gpv) := by
  unfold Ordered explicitLayer
  simp only [lit100]
  refine ⟨?_, ?_, ?_, ?_⟩ <;> linarith

example : Ordered (explicitLayer 30 12 42) := C15_explicit_ordered 30 12 42 (by norm_num) (by norm_num) (by norm_num) (by norm_num)

/-- PTF2 (Batjes pF 2.5): 0 < WP < FC < 1 on the whole domain clay ≥ 5, silt ≥ 5, sand = 100 − clay − silt ≥ 5,
C_org 0…6.  (The bound sand ≤ 85 is not needed.) -/
theorem C15_ptf2_ordered (c ton sluf : ℚ) (hc0 : 0 ≤ c) (hc6 : c ≤ 6) (ht : 5 ≤ ton) (hs : 5 ≤ sluf)
    (hsand : 5 ≤ 100 - ton - sluf) :
    0 < (ptf2 c ton sluf).2 ∧ (ptf2 c ton sluf).2 < (ptf2 c ton sluf).1 ∧ (ptf2 c ton sluf).1 < 1 :=
  ptf2_ordered c ton sluf hc0 hc6 ht hs (by linarith)

/-- PTF3 (Batjes pF 1.7): the same. -/
theorem C15_ptf3_ordered (c ton sluf : ℚ) (hc0 : 0 ≤ c) (hc6 : c ≤ 6) (ht : 5 ≤ ton) (hs : 5 ≤ sluf)
    (hsand : 5 ≤ 100 - ton - sluf) :
    0 < (ptf3 c ton sluf).2 ∧ (ptf3 c ton sluf).2 < (ptf3 c ton sluf).1 ∧ (ptf3 c ton sluf).1 < 1 :=
  ptf3_ordered c ton sluf hc0 hc6 ht hs (by linarith)

example : 0 < (ptf2 (1.5 : ℚ) 20 40).2 ∧ (ptf2 (1.5 : ℚ) 20 40).2 < (ptf2 (1.5 : ℚ) 20 40).1 ∧ (ptf2 (1.5 : ℚ) 20 40).1 < 1 :=
  C15_ptf2_ordered 1.5 20 40 (by norm_num) (by norm_num) (by norm_num) (by norm_num) (by norm_num)

/-- On the pedotransfer routes the pore volume is still the one of the soil file: the layer is ordered
exactly when the function's own ordering holds and its FC does not exceed that pore volume. -/
theorem C15_ptf_fc_le_ps_iff (k : Nat) (h : Horizon ℚ) :
    Ordered (ptfLayer k h) ↔
      (0 < (ptf k h.corg h.clay h.silt h.sand).2 ∧ (ptf k h.corg h.clay h.silt h.sand).2 < (ptf k h.corg h.clay h.silt h.sand).1 ∧
       (ptf k h.corg h.clay h.silt h.sand).1 ≤ h.gpv / 100 ∧ h.gpv < 100) := by
  unfold Ordered ptfLayer
  simp only [lit100, div_lt_one (by norm_num : (0 : ℚ) < 100)]

/-- a horizon with explicit values FC 30 ≤ PS 35 and a clay-rich triple (clay 50, silt 45, sand 5) -/
def witnessF16 : Horizon ℚ :=
  { codes := [76, 85, 32], ld := 3, lower := 3, corg := 0, stein := 0, fka := 30, wp := 12, gpv := 35,
    sand := 5, silt := 45, clay := 50 }

/-- F16, witness: PTF2, clay 50 %, silt 45 %, sand 5 %, C_org 0, explicit values FC 30 ≤ PS 35 in the
soil file: field capacity 0.367 > pore volume 0.35. -/
theorem C15_ptf_fc_gt_ps_fails_at :
    ¬ Ordered (ptfLayer 2 witnessF16) := by
  unfold Ordered
  decide +kernel

/-- Texture route, the whole table: for every texture present in both tables, every density class
1-5, every C_org, every groundwater level and every stone fraction in [0,1) the layer `Hydro` and the
assignment produce is ordered — except on the listed cells (`fcGtPs`, finding F17), where only
FC ≤ PS fails.  `partial`: the exception list is not empty (F17 is not repaired). -/
theorem C15_table_ordered_partial (codes vals : List Nat) (hrow : lookupRow codes Generated.hyparRows = some vals)
    (hvalid : codes ∈ Generated.parcapTextures) (ld : Nat) (hld : 1 ≤ ld ∧ ld ≤ 5) (c g s : ℚ)
    (hs0 : 0 ≤ s) (hs1 : s < 1) (hnot : fcGtPs codes ld (corgBr c) (gwBr g) = false) :
    Ordered (tableLayer (hydro codes ld c g) s) := by
  have h := hydro_facts codes vals hrow hvalid ld hld c g
  rw [hnot] at h
  exact tableLayer_ordered h hs0 hs1

/-- F17: on every listed cell the corrected field capacity exceeds the pore volume, for every stone
fraction below 1 (the other three relations still hold there). -/
theorem C15_table_fc_gt_ps_fails_at (codes vals : List Nat) (hrow : lookupRow codes Generated.hyparRows = some vals)
    (hvalid : codes ∈ Generated.parcapTextures) (ld : Nat) (hld : 1 ≤ ld ∧ ld ≤ 5) (c g s : ℚ)
    (hs1 : s < 1) (hlisted : fcGtPs codes ld (corgBr c) (gwBr g) = true) :
    (tableLayer (hydro codes ld c g) s).porges < (tableLayer (hydro codes ld c g) s).w := by
  have h := hydro_facts codes vals hrow hvalid ld hld c g
  rw [hlisted] at h
  exact tableLayer_fc_gt_ps h hs1

/-- the exception list is not empty: ULS, density class 1, C_org 5.3 %, groundwater at 99 dm -/
example : fcGtPs [85, 76, 83] 1 (corgBr 5.3) (gwBr 99) = true := by decide +kernel
/-- and it is not everything: the same texture with 1 % C_org is ordered -/
example : fcGtPs [85, 76, 83] 1 (corgBr 1) (gwBr 99) = false := by decide +kernel
example : lookupRow [85, 76, 83] Generated.hyparRows = some [39, 33, 30, 26, 22, 20, 48, 40, 34, 11] ∧
    [85, 76, 83] ∈ Generated.parcapTextures := by decide

/-- Fed percent values of one layer with WP < FC, the helper returns a fraction strictly between
that layer's wilting point and field capacity. -/
theorem C15_wred_between (sand : Bool) (wp fc : ℚ) (h : wp < fc) :
    wp / 100 < calcWRed sand wp fc ∧ calcWRed sand wp fc < fc / 100 := calcWRed_between sand wp fc h

/-- call site input.go:217 (explicit route) -/
theorem C15_wred_between_explicit (h : Horizon ℚ) (grw : ℚ) (hl : h.lower ≠ 0) (hf : 0 < h.fka) (hw : h.wp < h.fka) :
    (explicitLayer h.fka h.wp h.gpv).wmin < wredInput 0 h grw ∧ wredInput 0 h grw < (explicitLayer h.fka h.wp h.gpv).w := by
  unfold wredInput explicitLayer
  rw [if_neg hl, if_pos rfl, if_pos (lit0 ▸ hf), lit100]
  exact calcWRed_between (isSand h.codes) h.wp h.fka hw

/-- call site input.go:268-269 (pedotransfer routes): between the WP and the FC the function returned -/
theorem C15_wred_between_ptf (k : Nat) (hk : k ≠ 0) (h : Horizon ℚ) (grw : ℚ) (hl : h.lower ≠ 0)
    (hw : (ptfLayer k h).wmin < (ptfLayer k h).w) :
    (ptfLayer k h).wmin < wredInput k h grw ∧ wredInput k h grw < (ptfLayer k h).w := by
  unfold wredInput
  simp only [hl, hk, if_false]
  exact calcWRed_of_percent (isSand h.codes) _ _ hw

/-- call site input.go:1247-1251 (`Hydro`, texture-table route, also after a groundwater change): on
every cell of the table and for every stone fraction below 1, WRED lies strictly between the wilting
point and the corrected field capacity of the layer. -/
theorem C15_table_wred_between (codes vals : List Nat) (hrow : lookupRow codes Generated.hyparRows = some vals)
    (hvalid : codes ∈ Generated.parcapTextures) (ld : Nat) (hld : 1 ≤ ld ∧ ld ≤ 5) (c g s : ℚ) (hs1 : s < 1) :
    (tableLayer (hydro codes ld c g) s).wmin < hydroWRed codes (hydro codes ld c g) s ∧
    hydroWRed codes (hydro codes ld c g) s < (tableLayer (hydro codes ld c g) s).w :=
  table_wred_between_cell (hydro_facts codes vals hrow hvalid ld hld c g) hs1

/-- call site run.go:417-418 (backups restored after a groundwater change) and the input-time call sites together:
in the state the day loop works with — before the first groundwater change and after any change, on
every route — WRED lies strictly between WMIN[0] and W[0], provided the top horizon's layer has
WMIN < W ≤ PORGES and (input-time call sites) the threshold set by `Input` lies between them, which
`C15_wred_between_explicit`, `C15_wred_between_ptf` and `C15_table_wred_between` give per route. -/
theorem C15_wred_between_day (k : Nat) (h : Horizon ℚ) (t : List (Horizon ℚ)) (n : Nat) (gw grwInit grw : ℚ)
    (changed : Bool)
    (hlen : ∀ f : Horizon ℚ → Layer ℚ, (expand f 0 (h :: t)).length = n) (hl : 0 < h.lower)
    (hg0 : 0 ≤ grwInit) (hg : 0 ≤ grw)
    (hL : (horizonLayer k h gw).1.wmin < (horizonLayer k h gw).1.w ∧
          (horizonLayer k h gw).1.w ≤ (horizonLayer k h gw).1.porges)
    (hIn : (horizonLayer k h gw).1.wmin < wredInput k h gw ∧ wredInput k h gw < (horizonLayer k h gw).1.w)
    (hTab : k = 0 →
      (tableLayer (hydro h.codes h.ld h.corg grw) h.stein).wmin < hydroWRed h.codes (hydro h.codes h.ld h.corg grw) h.stein ∧
      hydroWRed h.codes (hydro h.codes h.ld h.corg grw) h.stein < (tableLayer (hydro h.codes h.ld h.corg grw) h.stein).w ∧
      (tableLayer (hydro h.codes h.ld h.corg grw) h.stein).w ≤ (tableLayer (hydro h.codes h.ld h.corg grw) h.stein).porges) :
    ∃ y, (dayState k (h :: t) n gw grwInit changed grw).cur[0]? = some y ∧
      y.wmin < (dayState k (h :: t) n gw grwInit changed grw).wred ∧
      (dayState k (h :: t) n gw grwInit changed grw).wred < y.w := by
  obtain ⟨rest, hrest⟩ := expand_head (fun h => (horizonLayer k h gw).1) h t hl
  have hst := inputState_length k (h :: t) gw grwInit n hlen
  unfold dayState
  cases changed with
  | false =>
    simp only [Bool.false_eq_true, if_false, initState, inputState, hrest]
    exact raised_head_between (forall₂_raised_trans (satInput_raised gw n _) (setFc_raised grwInit hg0 _))
      hL.2 hIn.1 hIn.2
  | true =>
    simp only [if_true]
    unfold gwStep
    split
    · rename_i hc
      obtain ⟨a1, a2, a3⟩ := hTab hc.1
      obtain ⟨rest2, hrest2⟩ := expand_head (fun h => tableLayer (hydro h.codes h.ld h.corg grw) h.stein) h t hl
      simp only [hrest2]
      exact raised_head_between (setFc_raised grw hg _) a3 a1 a2
    · simp only
      rw [restoreN_eq n _ _ hst.1 hst.2]
      simp only [initState, inputState, hrest]
      have hw := calcWRed_of_percent (isSand h.codes) _ _ hL.1
      exact raised_head_between (setFc_raised grw hg _) hL.2 hw.1 hw.2

/-- a one-horizon soil of six layers with explicit values WP 12 < FC 30 ≤ PS 42 -/
def witnessF8 : Horizon ℚ :=
  { codes := [76, 85, 32], ld := 3, lower := 6, corg := 1, stein := 0, fka := 30, wp := 12, gpv := 42,
    sand := 20, silt := 60, clay := 20 }

/-- the hypotheses are satisfiable: the six-layer witness soil with explicit values -/
example : (horizonLayer 0 witnessF8 5).1.wmin < wredInput 0 witnessF8 5 ∧ wredInput 0 witnessF8 5 < (horizonLayer 0 witnessF8 5).1.w := by
  decide +kernel
example : calcWRed false (25 : ℚ) 54 = 4414 / 10000 := by decide +kernel

/-- Below the groundwater table field capacity equals pore volume: in the state the day loop works
with, before the first change (level `grwInit`) and after a change (level `grw`), every layer whose
upper edge is at or below the table has W = PORGES. -/
theorem C15_below_table_fc_eq_ps (k : Nat) (hs : List (Horizon ℚ)) (n : Nat) (gw grwInit grw : ℚ) (changed : Bool)
    (hg0 : 0 ≤ grwInit) (hg : 0 ≤ grw) (i : Nat) (y : Layer ℚ)
    (hy : (dayState k hs n gw grwInit changed grw).cur[i]? = some y)
    (hbelow : (if changed then grw else grwInit) ≤ (i : ℚ)) : y.w = y.porges := by
  unfold dayState at hy
  cases changed with
  | false => exact setFc_below grwInit hg0 _ i y hy hbelow
  | true =>
    simp only [if_true] at hy hbelow
    unfold gwStep at hy
    split at hy <;> exact setFc_below grw hg _ i y hy hbelow

/-- The saturated-zone rules never destroy the ordering: if the layers the routes assign are ordered
(at input time, and on the table route at today's level), every layer of the state the day loop works
with is ordered. -/
theorem C15_day_layers_ordered (k : Nat) (hs : List (Horizon ℚ)) (n : Nat) (gw grwInit grw : ℚ) (changed : Bool)
    (hlen : ∀ f : Horizon ℚ → Layer ℚ, (expand f 0 hs).length = n)
    (hg0 : 0 ≤ grwInit) (hg : 0 ≤ grw)
    (hIn : ∀ h ∈ hs, Ordered (horizonLayer k h gw).1)
    (hTab : k = 0 → ∀ h ∈ hs, Ordered (tableLayer (hydro h.codes h.ld h.corg grw) h.stein)) :
    ∀ y ∈ (dayState k hs n gw grwInit changed grw).cur, Ordered y := by
  have hls := expand_forall (fun h => (horizonLayer k h gw).1) hs 0 hIn
  have hst := inputState_length k hs gw grwInit n hlen
  unfold dayState
  cases changed with
  | false =>
    exact forall₂_raised_ordered (setFc_raised grwInit hg0 _)
      (forall₂_raised_ordered (satInput_raised gw n _) hls)
  | true =>
    simp only [if_true]
    unfold gwStep
    split
    · rename_i hc
      exact forall₂_raised_ordered (setFc_raised grw hg _) (expand_forall _ hs 0 (hTab hc.1))
    · simp only
      rw [restoreN_eq n _ _ hst.1 hst.2]
      exact forall₂_raised_ordered (setFc_raised grw hg _) hls

/-- After every groundwater change the parameters (all four per layer, and WRED) are a function of
(backups, static soil data, level) only: two arbitrary histories of changes that end at the same level
`g` give the same parameters.  Hence a table that is back at an earlier level has restored every
layer's parameters — provided a change happened before the earlier visit too (see `C15_first_state_differs_fails_at`). -/
theorem C15_gw_params_function_of_level (k : Nat) (hs : List (Horizon ℚ)) (n : Nat) (hne : hs ≠ []) (hn : 0 < n)
    (hlen : ∀ f : Horizon ℚ → Layer ℚ, (expand f 0 hs).length = n) (gw grwInit : ℚ)
    (gs1 gs2 : List ℚ) (g : ℚ) :
    ((gs1 ++ [g]).foldl (gwStep k hs n) (initState (inputState k hs gw gw n) grwInit)).cur =
      ((gs2 ++ [g]).foldl (gwStep k hs n) (initState (inputState k hs gw gw n) grwInit)).cur ∧
    ((gs1 ++ [g]).foldl (gwStep k hs n) (initState (inputState k hs gw gw n) grwInit)).wred =
      ((gs2 ++ [g]).foldl (gwStep k hs n) (initState (inputState k hs gw gw n) grwInit)).wred := by
  obtain ⟨h1, h2⟩ := inputState_length k hs gw grwInit n hlen
  rw [gw_history k hs n hne hn hlen gs1 g _ h1 h2, gw_history k hs n hne hn hlen gs2 g _ h1 h2]
  exact ⟨rfl, rfl⟩

/-- F8, witness: six layers, explicit values, groundwater at 5 dm when the soil is read and at the
start (time series with a flat start).  Before the first change layer 5 is saturated (input.go:286-292
starts at round(GW) = 5); after the table has moved and come back to 5 dm it is not (init.go:90-98
starts at int(GRW+1) = 6): same level, different parameters. -/
theorem C15_first_state_differs_fails_at :
    ((dayState 0 [witnessF8] 6 5 5 false 5).cur.map (·.w)) = [3/10, 3/10, 3/10, 3/10, 21/50, 21/50] ∧
    ((dayState 0 [witnessF8] 6 5 5 true 5).cur.map (·.w)) = [3/10, 3/10, 3/10, 3/10, 3/10, 21/50] := by
  decide +kernel

/-- the hypotheses of the groundwater theorems are satisfiable: the witness soil has six layers -/
example : ∀ f : Horizon ℚ → Layer ℚ, (expand f 0 [witnessF8]).length = 6 := by
  intro f; simp [expand, witnessF8]
example : ∀ h ∈ [witnessF8], Ordered (horizonLayer 0 h 5).1 := by
  unfold Ordered
  decide +kernel

/-- PTF1 (Toth 2015) on its whole continuous domain — clay ≥ 5, silt ≥ 5, sand = 100 − clay − silt ≥ 5,
C_org 0…6 (the bound sand ≤ 85 is not needed): 0 < WP < FC < 1; in fact WP ≥ 0.04, FC − WP ≥ 0.002
(the minimum 0.00211 is at clay 58.2, silt 36.8, C_org 0), FC ≤ 0.7.  Proved by affinity in
u = 1/(C_org+1) and in silt, then on the edges of the texture triangle (HermesProofs/SoilParamsPtf.lean). -/
theorem C15_ptf1_ordered (c ton sluf : ℚ) (hc0 : 0 ≤ c) (hc6 : c ≤ 6) (ht : 5 ≤ ton) (hs : 5 ≤ sluf)
    (hsand : 5 ≤ 100 - ton - sluf) :
    0 < (ptf1 c ton sluf).2 ∧ (ptf1 c ton sluf).2 < (ptf1 c ton sluf).1 ∧ (ptf1 c ton sluf).1 < 1 := by
  obtain ⟨a, b, d⟩ := ptf1_bounds c ton sluf hc0 hc6 ht hs (by linarith)
  exact ⟨lt_of_lt_of_le (by norm_num) a, sub_pos.mp (lt_of_lt_of_le (by norm_num) b),
    sub_pos.mp (lt_of_lt_of_le (by norm_num) d)⟩

example : 0 < (ptf1 (0 : ℚ) 58 37).2 ∧ (ptf1 (0 : ℚ) 58 37).2 < (ptf1 (0 : ℚ) 58 37).1 ∧ (ptf1 (0 : ℚ) 58 37).1 < 1 :=
  C15_ptf1_ordered 0 58 37 (by norm_num) (by norm_num) (by norm_num) (by norm_num) (by norm_num)

/-- PTF4 (Rawls et al. 2003; a polynomial of degree 5 in three variables, transcribed with the `*` of
input.go PTF4 where the published regression has `+`) on its whole CONTINUOUS domain — C_org 0…6 %,
clay 5…90 %, sand 5…85 %, silt = 100 − clay − sand ≥ 5 %: 0 < WP < FC < 1.  Proved by a verified
interval-subdivision certificate (HermesProofs/Ptf4Cert.lean).  The minimum of FC − WP is 0.0087 at clay 10,
sand 85, C_org 0. -/
theorem C15_ptf4_ordered (c ton ssand : ℚ) (hc0 : 0 ≤ c) (hc6 : c ≤ 6) (ht : 5 ≤ ton) (hs : 5 ≤ ssand)
    (hs85 : ssand ≤ 85) (hsilt : 5 ≤ 100 - ton - ssand) :
    0 < (ptf4 c ton ssand).2 ∧ (ptf4 c ton ssand).2 < (ptf4 c ton ssand).1 ∧ (ptf4 c ton ssand).1 < 1 :=
  ptf4_ordered c ton ssand hc0 hc6 ht hs hs85 (by linarith)

example : 0 < (ptf4 (0 : ℚ) 10 85).2 ∧ (ptf4 (0 : ℚ) 10 85).2 < (ptf4 (0 : ℚ) 10 85).1 ∧ (ptf4 (0 : ℚ) 10 85).1 < 1 :=
  C15_ptf4_ordered 0 10 85 (by norm_num) (by norm_num) (by norm_num) (by norm_num) (by norm_num) (by norm_num)


/-! The same four statements about the Go source of the pedotransfer functions: `Generated.Src.PTF1 … PTF4` are
regenerated from hermes/input.go on every run by the translator (harness/cmd/extract/translate_facts.go), and
`SourceTie.ptf*_eq_source` proves that the hand-written model equals the translation, so these theorems are checked
against the code as it stands. -/

theorem C15_ptf1_source_ordered (c ton sluf : ℚ) (hc0 : 0 ≤ c) (hc6 : c ≤ 6) (ht : 5 ≤ ton) (hs : 5 ≤ sluf)
    (hsand : 5 ≤ 100 - ton - sluf) :
    0 < (Generated.Src.PTF1 c ton sluf).2 ∧ (Generated.Src.PTF1 c ton sluf).2 < (Generated.Src.PTF1 c ton sluf).1 ∧
      (Generated.Src.PTF1 c ton sluf).1 < 1 := by
  rw [← SourceTie.ptf1_eq_source]; exact C15_ptf1_ordered c ton sluf hc0 hc6 ht hs hsand

theorem C15_ptf2_source_ordered (c ton sluf : ℚ) (hc0 : 0 ≤ c) (hc6 : c ≤ 6) (ht : 5 ≤ ton) (hs : 5 ≤ sluf)
    (hsand : 5 ≤ 100 - ton - sluf) :
    0 < (Generated.Src.PTF2 c ton sluf).2 ∧ (Generated.Src.PTF2 c ton sluf).2 < (Generated.Src.PTF2 c ton sluf).1 ∧
      (Generated.Src.PTF2 c ton sluf).1 < 1 := by
  rw [← SourceTie.ptf2_eq_source]; exact C15_ptf2_ordered c ton sluf hc0 hc6 ht hs hsand

theorem C15_ptf3_source_ordered (c ton sluf : ℚ) (hc0 : 0 ≤ c) (hc6 : c ≤ 6) (ht : 5 ≤ ton) (hs : 5 ≤ sluf)
    (hsand : 5 ≤ 100 - ton - sluf) :
    0 < (Generated.Src.PTF3 c ton sluf).2 ∧ (Generated.Src.PTF3 c ton sluf).2 < (Generated.Src.PTF3 c ton sluf).1 ∧
      (Generated.Src.PTF3 c ton sluf).1 < 1 := by
  rw [← SourceTie.ptf3_eq_source]; exact C15_ptf3_ordered c ton sluf hc0 hc6 ht hs hsand

theorem C15_ptf4_source_ordered (c ton ssand : ℚ) (hc0 : 0 ≤ c) (hc6 : c ≤ 6) (ht : 5 ≤ ton) (hs : 5 ≤ ssand)
    (hs85 : ssand ≤ 85) (hsilt : 5 ≤ 100 - ton - ssand) :
    0 < (Generated.Src.PTF4 c ton ssand).2 ∧ (Generated.Src.PTF4 c ton ssand).2 < (Generated.Src.PTF4 c ton ssand).1 ∧
      (Generated.Src.PTF4 c ton ssand).1 < 1 := by
  rw [← SourceTie.ptf4_eq_source]; exact C15_ptf4_ordered c ton ssand hc0 hc6 ht hs hs85 hsilt

example : 0 < (Generated.Src.PTF4 (0 : ℚ) 10 85).2 :=
  (C15_ptf4_source_ordered 0 10 85 (by norm_num) (by norm_num) (by norm_num) (by norm_num) (by norm_num) (by norm_num)).1

end Hermes.SoilParams
