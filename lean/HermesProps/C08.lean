/-
C08 — Actual ET never exceeds potential ET, which never exceeds the daily cap; root uptake only
from rooted layers above the groundwater table, never negative; stress ratios in [0,1].
Model: HermesModel/Evatra.lean (the partition part of `Evatra`, hermes/water.go:18-663 including
the floor of the potential ET at zero; the raw value of the chosen method and every
transcendental coefficient are inputs) and, for the
availability limit, HermesModel/Water.lean (`limitTp`, first loop of `Water`).  Exact-arithmetic
statements over ℚ for every number of layers and every state; round-off is measured by the search
stage.  The model is tied to the code by bit-exact differential correspondence (`evatra.part`).
-/
import HermesProofs.Evatra
import HermesProofs.WaterBounds
import HermesProofs.EvatraPet
namespace Hermes.Evatra

/-- Admissible input of the partition: positive layer thickness, `elai = exp(-.5·LAI) ∈ [0,1]`,
non-negative root length densities, and a third of the top layer's wilting point below its field
capacity (C15's ordering gives much more). No condition on lengths, water contents or weather. -/
structure WF (i : In ℚ) : Prop where
  dz : 0 < i.dz
  elai0 : 0 ≤ i.elai
  elai1 : i.elai ≤ 1
  wudich : ∀ d ∈ i.wudich, 0 ≤ d
  top : i.wmin.headD 0 / 3 < i.w0

/-- Whatever the potential ET of the chosen method is, the value used for the day is at
most 6.5 mm under a crop and 6 mm on bare soil (no hypothesis at all). -/
theorem C08_pet_le_cap (i : In ℚ) :
    (partition i).verdu ≤ (if i.crop then 0.65 else 0.6) := by
  rw [partition_verdu]; exact capSplit_le _ _ _

/-- Maximum evaporation and maximum transpiration add up to the potential ET. -/
theorem C08_ev_plus_tr_eq_pet (i : In ℚ) (h : WF i) :
    (partition i).evmax + (partition i).tramax = (partition i).verdu := by
  rw [partition_evmax, partition_tramax, partition_verdu]
  exact capSplit_sum i.crop i.verdu0 i.elai h.elai1

/-- The soil-dryness factor of evaporation lies in [0,1]. -/
theorem C08_redev_in_unit (i : In ℚ) (h : WF i) :
    0 ≤ (partition i).redev ∧ (partition i).redev ≤ 1 := by
  have hp := proz_unit (i.wg.headD 0) i.regen i.dz (i.wmin.headD 0) i.w0 h.top
  rw [partition_redev]; exact redev_unit _ hp.1 hp.2

/-- Whatever the formula of the chosen method returns (negative
for Turc-Wendling below −22 °C, negative with a missing-value sentinel in the ET0 column), the
potential ET of the day, its evaporation share and its transpiration share are non-negative:
the value is floored at zero before the cap. No hypothesis on the method's value. -/
theorem C08_pet_nonneg (i : In ℚ) (h : WF i) :
    0 ≤ (partition i).verdu ∧ 0 ≤ (partition i).evmax ∧ 0 ≤ (partition i).tramax := by
  obtain ⟨hv, he, ht, _⟩ := capSplit_nonneg i.crop i.verdu0 i.elai h.elai0 h.elai1
  rw [partition_verdu, partition_evmax, partition_tramax]
  exact ⟨hv, he, ht⟩

/-- **Actual evaporation** is non-negative and at most its maximum, which is at most the potential ET. -/
theorem C08_eta_le_evmax (i : In ℚ) (h : WF i) :
    0 ≤ (partition i).eta ∧ (partition i).eta ≤ (partition i).evmax ∧
      (partition i).evmax ≤ (partition i).verdu := by
  obtain ⟨_, he, _, hle⟩ := capSplit_nonneg i.crop i.verdu0 i.elai h.elai0 h.elai1
  have hr := C08_redev_in_unit i h
  rw [partition_eta, partition_evmax, partition_verdu]
  exact ⟨mul_nonneg he hr.1, mul_le_of_le_one_right he hr.2, hle⟩

/-- Under a crop: the deficit loop does not increase the total uptake, the
first distribution hands out at most TRAMAX·LURED ≤ TRAMAX (the shares of the remaining root
activity sum to at most one; what cannot be placed is dropped). -/
theorem C08_redistribution_total_le (i : In ℚ) (h : WF i) (hc : i.crop = true) :
    (partition i).tp.sum ≤ (partition i).tp0.sum ∧
    (partition i).tp0.sum ≤ (partition i).tramax * (partition i).lured ∧
    (partition i).tramax * (partition i).lured ≤ (partition i).tramax :=
  (partition_uptake i h.dz (C08_pet_nonneg i h).2.2 h.wudich).2.2.2

/-- **Uptake non-negative** in every layer (crop or bare soil). -/
theorem C08_tp_nonneg (i : In ℚ) (h : WF i) : ∀ t ∈ (partition i).tp, 0 ≤ t :=
  (partition_uptake i h.dz (C08_pet_nonneg i h).2.2 h.wudich).1

/-- **Uptake only from rooted layers above groundwater.** Layer `j+1` (1-based) with
`j+1 > min(WURZ, GRW)` takes up nothing; on bare soil no layer does. No hypothesis on signs. -/
theorem C08_tp_zero_outside (i : In ℚ) (j : ℕ) (t : ℚ) (ht : (partition i).tp[j]? = some t)
    (hout : i.crop = false ∨ minRootGw i.wurz i.grw < (((j + 1 : ℕ)) : ℚ)) : t = 0 := by
  cases hc : i.crop
  · rw [(partition_bare i hc).1] at ht
    exact List.eq_of_mem_replicate (List.mem_of_getElem? ht)
  · have hout : minRootGw i.wurz i.grw < (((j + 1 : ℕ)) : ℚ) := hout.resolve_left (by rw [hc]; exact Bool.noConfusion)
    rw [(partition_tp i hc).2.1, loopOut, redist_get _ _ _ _ _ _ _ _ _ j (truncNat_le_of_lt _ j hout)] at ht
    obtain ⟨x, hx, rfl⟩ := Option.map_eq_some_iff.mp ht
    exact tpInit_zero _ _ _ _ _ 1 j x hx (by rw [Nat.add_comm]; exact hout)

/-- Actual evaporation plus the uptake of all layers (and the uptake
total TPAKT handed to the ratios) is at most the potential ET of the day. -/
theorem C08_actual_le_potential (i : In ℚ) (h : WF i) :
    (partition i).eta + (partition i).tp.sum ≤ (partition i).verdu ∧
    0 ≤ (partition i).tpakt ∧ (partition i).tpakt ≤ (partition i).tp.sum := by
  have hsplit := C08_ev_plus_tr_eq_pet i h
  have heta := C08_eta_le_evmax i h
  obtain ⟨_, hakt0, hakt, h1, h2, h3⟩ := partition_uptake i h.dz (C08_pet_nonneg i h).2.2 h.wudich
  exact ⟨by linarith [heta.2.1], hakt0, hakt⟩

/-- TRREL and ETREL handed to the crop model lie in [0,1] (where the
code keeps the previous value, provided that one did). -/
theorem C08_trrel_etrel_unit (i : In ℚ) (h : WF i)
    (ht : 0 ≤ i.trrelPrev ∧ i.trrelPrev ≤ 1) (he : 0 ≤ i.etrelPrev ∧ i.etrelPrev ≤ 1) :
    (0 ≤ (partition i).trrel ∧ (partition i).trrel ≤ 1) ∧
    (0 ≤ (partition i).etrel ∧ (partition i).etrel ≤ 1) := by
  have hact := C08_actual_le_potential i h
  have heta := C08_eta_le_evmax i h
  cases hc : i.crop
  · obtain ⟨_, _, h3, h4, _⟩ := partition_bare i hc
    rw [h3, h4]
    exact ⟨⟨zero_le_one, le_refl _⟩, he⟩
  · have htot := C08_redistribution_total_le i h hc
    obtain ⟨_, e1, e2⟩ := partition_crop i hc
    rw [e1, e2]
    constructor
    · split_ifs with hp
      · refine ⟨div_nonneg hact.2.1 hp.le, ?_⟩
        rw [div_le_one hp]
        linarith [hact.2.2, htot.1, htot.2.1, htot.2.2]
      · exact ht
    · refine ⟨le_min ?_ zero_le_one, min_le_right _ _⟩
      split_ifs with hp
      · exact div_nonneg (by linarith [hact.2.1, heta.1]) hp.le
      · exact zero_le_one

/-- After the limit applied by the water routine in the first
sub-step of the day (water.go:823-833) the uptake of a layer is at most the water above the
wilting point, and zero when the layer is drier than that. -/
theorem C08_tp_le_available (dz : ℚ) : ∀ (tp wg wmin : List ℚ) (j : ℕ) (t g m : ℚ),
    (Water.limitTp dz tp wg wmin)[j]? = some t → wg[j]? = some g → wmin[j]? = some m →
    t ≤ max 0 ((g - m) * dz) := by
  intro tp wg wmin j t g m h hg hm
  obtain ⟨t0, g', m', _, hg', hm', rfl⟩ := Water.limitTp_get dz tp wg wmin j t h
  cases hg.symm.trans hg'
  cases hm.symm.trans hm'
  exact (Water.limTp_le dz g m t0).trans_eq (max_comm _ _)

/-- A bare-soil day on which the formula of the chosen method returns −0.1 mm (Turc-Wendling at
an air temperature below −22 °C, or an ET0 column carrying a negative sentinel). The code before the
repair "fix: potential evapotranspiration is floored at zero before the daily cap" (finding F14) gives
this day a negative potential ET, a negative actual evaporation and a positive surface flux. -/
def frostDay : In ℚ :=
  { dz := 10, dt := 1, dtIdx := 1, crop := false, verdu0 := -1 / 100, elai := 1, regen := 0,
    wg := [0.25, 0.25], w0 := 0.3, wmin := [0.1, 0.1], wnor := [0.3, 0.3], expc := [0.7, 0.4],
    wudich := [0, 0], wurz := 0, grw := 99, p0 := 0.4, p1 := 0.4, p2 := 0, g0 := 0.25, g1 := 0.25, g2 := 0,
    lukrit := 0, lumday := 0, trrelPrev := 1, etrelPrev := 1 }

example : WF frostDay ∧ frostDay.verdu0 < 0 ∧ (partition frostDay).verdu = 0 ∧ (partition frostDay).eta = 0 ∧
    (partition frostDay).fluss0 = 0 := by
  refine ⟨⟨?_, ?_, ?_, ?_, ?_⟩, ?_, ?_, ?_, ?_⟩ <;> decide +kernel

def cropDay : In ℚ :=
  { dz := 10, dt := 1, dtIdx := 1, crop := true, verdu0 := 0.5, elai := 0.4, regen := 0,
    wg := [0.12, 0.25, 0.28], w0 := 0.3, wmin := [0.1, 0.1, 0.1], wnor := [0.3, 0.3, 0.3], expc := [0.7, 0.4, 0.2],
    wudich := [2, 1, 0.5], wurz := 3, grw := 2, p0 := 0.4, p1 := 0.4, p2 := 0.4, g0 := 0.12, g1 := 0.25, g2 := 0.28,
    lukrit := 0.08, lumday := 1, trrelPrev := 1, etrelPrev := 1 }

example : WF cropDay ∧ cropDay.crop = true ∧
    (0 ≤ cropDay.trrelPrev ∧ cropDay.trrelPrev ≤ 1) ∧ (0 ≤ cropDay.etrelPrev ∧ cropDay.etrelPrev ≤ 1) := by
  refine ⟨⟨?_, ?_, ?_, ?_, ?_⟩, rfl, ?_, ?_⟩ <;> decide +kernel

/-- the third layer of `cropDay` lies below the groundwater table (GRW = 2 < 3 = WURZ) -/
example : minRootGw cropDay.wurz cropDay.grw < (((2 + 1 : ℕ)) : ℚ) := by
  decide +kernel

/-- hypotheses of `C08_tp_le_available` are satisfiable with the limiter engaged -/
example : (Water.limitTp (10 : ℚ) [0.5] [0.12] [0.1])[0]? = some (((0.12 : ℚ) - 0.1) * 10) := by
  decide +kernel

end Hermes.Evatra

/-! ## The potential-ET part: five methods, `stomat`, day length (HermesModel/EvatraPet.lean)

The value of every transcendental call is a free variable (`Tr ℚ`); what a theorem assumes about
one of them is a named hypothesis (`exp > 0`, `pow(x, 2) = x²`, `log x ≥ 0` for `x ≥ 1`, the range of
the arc sine, …).  The model is tied to `hermes.Evatra` bit for bit by the kernels `pet.day` and
`evatra.full` (harness/cmd/check/c08_pet.go), with Go's own `math` functions as the oracle. -/
namespace Hermes.EvatraPet
open Hermes.Evatra

def cap (crop : Bool) : ℚ := if crop then 0.65 else 0.6

/-- The crop coefficient is applied to the method's value first,
then the floor at zero, then the cap (water.go:289-298, 462-470): whatever the method number, the
weather, the site, the coefficients and the values of the transcendental calls are, the potential
ET handed to the partition is `min cap (max 0 raw)` and lies in [0, cap]. No hypothesis. -/
theorem C08_pet_method_bounds (i : PIn ℚ) (t : Tr ℚ) (elai : ℚ) :
    verdunst i t elai = min (cap i.crop) (max 0 (petRaw i t).verdu0) ∧
    0 ≤ verdunst i t elai ∧ verdunst i t elai ≤ cap i.crop := by
  unfold verdunst cap
  exact ⟨by rw [capSplit_fst, min_comm, max_comm], capSplit_fst_nonneg _ _ _, capSplit_le _ _ _⟩

/-- **Haude** (method 1): the raw value is VERD · (Haude factor of the month, crop or bare) · 0.1;
the month index is always one of 1…12 (so with twelve factors one of them is taken). -/
theorem C08_haude_bounds (i : PIn ℚ) (t : Tr ℚ) (elai : ℚ) (h : i.meth = 1) :
    (petRaw i t).verdu0 = i.verd * monthFactor (if i.crop then i.fkf else i.fku) i.tagN * 0.1 ∧
    (1 ≤ fkm i.tagN ∧ fkm i.tagN ≤ 12) ∧
    0 ≤ verdunst i t elai ∧ verdunst i t elai ≤ cap i.crop := by
  refine ⟨?_, fkm_range _, (C08_pet_method_bounds i t elai).2⟩
  unfold petRaw
  cases hc : i.crop <;> simp [h, keep]

/-- **Turc-Wendling** (method 2): the crop coefficient (FKC under a crop, FKB on bare soil) is the
last-but-one factor of the raw value, before floor and cap. -/
theorem C08_turc_bounds (i : PIn ℚ) (t : Tr ℚ) (elai : ℚ) (h : i.meth = 2) :
    (petRaw i t).verdu0 =
      turc i.crop i.rad i.sund i.temp i.kcoa 1 (dayLength t) * (if i.crop then i.fkc else i.fkb) ∧
    0 ≤ verdunst i t elai ∧ verdunst i t elai ≤ cap i.crop := by
  refine ⟨?_, (C08_pet_method_bounds i t elai).2⟩
  have hraw : (petRaw i t).verdu0 =
      turc i.crop i.rad i.sund i.temp i.kcoa (if i.crop then i.fkc else i.fkb) (dayLength t) := by
    unfold petRaw
    cases hc : i.crop <;> simp [h, keep]
  rw [hraw, turc_linear]

/-- **ET0 column** (method 5): raw = ETNULL · kc · 0.1; a negative sentinel in the column gives a
negative raw value, which the floor removes. -/
theorem C08_et0column_bounds (i : PIn ℚ) (t : Tr ℚ) (elai : ℚ) (h : i.meth = 5) :
    (petRaw i t).verdu0 = i.etnull * (if i.crop then i.fkc else i.fkb) * 0.1 ∧
    (i.etnull < 0 → 0 < (if i.crop then i.fkc else i.fkb) → verdunst i t elai = 0) ∧
    0 ≤ verdunst i t elai ∧ verdunst i t elai ≤ cap i.crop := by
  have hraw : (petRaw i t).verdu0 = i.etnull * (if i.crop then i.fkc else i.fkb) * 0.1 := by
    unfold petRaw
    cases hc : i.crop <;> simp [h, keep]
  have hb := C08_pet_method_bounds i t elai
  refine ⟨hraw, fun hn hk => ?_, hb.2⟩
  have : (petRaw i t).verdu0 ≤ 0 :=
    hraw ▸ mul_nonpos_of_nonpos_of_nonneg (mul_nonpos_of_nonpos_of_nonneg hn.le hk.le) (by norm_num)
  exact le_antisymm (hb.1.trans_le ((min_le_right _ _).trans_eq (max_eq_left this))) hb.2.1

/-- **Priestley-Taylor and Penman-Monteith** (methods 4 and 3): the reference ET is floored at zero
by the method itself (water.go:201-203, 286-288, 381-383, 459-461) for every input, the raw value
is ET0 · kc · 0.1 with the coefficient the call leaves in FKC (FKB on bare soil), so with a
non-negative coefficient the raw value is already non-negative. -/
theorem C08_reference_et_bounds (i : PIn ℚ) (t : Tr ℚ) (elai : ℚ) (h : i.meth = 3 ∨ i.meth = 4) :
    0 ≤ (petRaw i t).et0 ∧
    (petRaw i t).verdu0 = (petRaw i t).et0 * (petRaw i t).fkc * 0.1 ∧
    (petRaw i t).fkc = (if i.crop then i.fkc else i.fkb) ∧
    (0 ≤ (petRaw i t).fkc → 0 ≤ (petRaw i t).verdu0) ∧
    0 ≤ verdunst i t elai ∧ verdunst i t elai ≤ cap i.crop := by
  have key : 0 ≤ (petRaw i t).et0 ∧ (petRaw i t).verdu0 = (petRaw i t).et0 * (petRaw i t).fkc * 0.1 ∧
      (petRaw i t).fkc = (if i.crop then i.fkc else i.fkb) := by
    rcases h with h | h
    · rw [petRaw_penman i t h]
      exact ⟨floor0_nonneg _, rfl, rfl⟩
    · unfold petRaw
      cases hc : i.crop <;> simp [h, keep, priestleyEt0, floor0_nonneg]
  exact ⟨key.1, key.2.1, key.2.2, fun hk => key.2.1 ▸ mul_nonneg (mul_nonneg key.1 hk) (by norm_num),
    (C08_pet_method_bounds i t elai).2⟩

/-- The wind speed the Penman-Monteith formula uses (and leaves in the weather
record of the day) is at least 0.5 m/s, whatever was measured at whatever height. -/
theorem C08_wind_floor (i : PIn ℚ) (t : Tr ℚ) (h : i.meth = 3) : 0.5 ≤ (petRaw i t).wind := by
  rw [petRaw_penman i t h]
  exact wind2m_ge _ _ _

/-- **Day length clamps.** With the arc sine in its range [−π/2, π/2] (its argument is clamped to
[−1, 1] by `Limit`, polar day and polar night included) the astronomical and the effective day
length lie in [0, 24] h, and the effective one is the shorter when the arc sines are ordered. -/
theorem C08_daylength_range (t : Tr ℚ)
    (h1 : -(pi / 2) ≤ t.asDL ∧ t.asDL ≤ pi / 2) (h2 : -(pi / 2) ≤ t.asDLE ∧ t.asDLE ≤ pi / 2) :
    (0 ≤ (dayLength t).dl ∧ (dayLength t).dl ≤ 24) ∧ (0 ≤ (dayLength t).dle ∧ (dayLength t).dle ≤ 24) ∧
    (t.asDLE ≤ t.asDL → (dayLength t).dle ≤ (dayLength t).dl) ∧
    (∀ v : ℚ, -1 ≤ limit v 1 (-1) ∧ limit v 1 (-1) ≤ 1) := by
  refine ⟨?_, ?_, dle_le_dl t, limit_range⟩
  · rw [dayLength_dl]; exact hours_range _ h1.1 h1.2
  · rw [dayLength_dle]; exact hours_range _ h2.1 h2.2

/-- **Denominators of Turc-Wendling**: 150·(TEMP + 123) (radiation given; bare soil) and
150·(TEMP − 1 + 123) (sunshine hours under a crop) are positive above −122 °C; the third division,
by the day length, is guarded by `DL > 0` in the code. -/
theorem C08_turc_denominators_pos (temp : ℚ) (h : -122 < temp) :
    0 < turcDen temp ∧ 0 < turcDenSunCrop temp :=
  ⟨mul_pos (by norm_num) (by linarith), mul_pos (by norm_num) (by linarith)⟩

/-- What the denominators of the two radiation methods rest on.  Input ranges: the three temperatures above
−237.3 °C, the altitude below 45 km.  Values of the transcendental calls: `exp` is positive, `pow(x, 2)` is the
square, `pow(x, 5.26)` of a positive base is positive. -/
structure RadOk (i : PIn ℚ) (t : Tr ℚ) : Prop where
  temp : -237.3 < i.temp
  tmin : -237.3 < i.tmin
  tmax : -237.3 < i.tmax
  alti : i.alti < 45000          -- base of the pressure power (293 − 0.0065·ALTI)/293 positive
  eT : 0 < t.eT
  eTmin : 0 < t.eTmin
  eTmax : 0 < t.eTmax
  pT2 : t.pT2 = (i.temp + 237.3) * (i.temp + 237.3)
  pAtm : 0 < t.pAtm

/-- **Denominators of Priestley-Taylor**: TEMP + 237.3 and TMIN + 237.3 (inside the exponents),
pow(TEMP + 237.3, 2) (slope Δ), and Δ + γ (crop branch) are positive; above −37500 m, the zero of its factor
0.75 + 2·10⁻⁵·ALTI, RS0 is positive whenever the extraterrestrial radiation is (it is 0 in the polar night: the unguarded
RAD·2/RS0 of water.go:179, 258, 358 is then +Inf in IEEE arithmetic and clipped to 1 by the next line). -/
theorem C08_priestley_denominators_pos (i : PIn ℚ) (t : Tr ℚ) (h : RadOk i t) :
    0 < i.temp + 237.3 ∧ 0 < i.tmin + 237.3 ∧ 0 < t.pT2 ∧ 0 < deltsat t.eT t.pT2 ∧
    0 < deltsat t.eT t.pT2 + psych t.pAtm ∧
    (∀ ext : ℚ, 0 < ext → -37500 < i.alti → 0 < rs0 i.alti ext) := by
  have h1 : 0 < i.temp + 237.3 := neg_lt_iff_pos_add.1 h.temp
  have h2 : 0 < t.pT2 := h.pT2 ▸ mul_pos h1 h1
  have h3 := deltsat_pos t.eT t.pT2 h.eT h2
  exact ⟨h1, neg_lt_iff_pos_add.1 h.tmin, h2, h3, add_pos h3 (psych_pos t.pAtm h.pAtm), fun ext he ha => rs0_pos _ _ ha he⟩

/-- **Denominators of Penman-Monteith** for the state `st` = (RSTOM, SUND, RADSUM) left by `stomat`
with a non-negative canopy resistance: the exponents' TEMP/TMIN/TMAX + 237.3, pow(TEMP + 237.3, 2),
TEMP + 273, the logarithm of the wind-height conversion (measuring height above 0.0947 m, i.e.
67.8·WINDHI − 5.42 > 1, assumed: log of a number above 1 is positive), and the denominator
Δ + γ·(1 + rs/208·u₂) of the formula itself (u₂ ≥ 0.5 by the wind floor). -/
theorem C08_penman_denominators_pos (crop : Bool) (i : PIn ℚ) (t : Tr ℚ) (s : Sol ℚ) (st : ℚ × ℚ × ℚ)
    (h : RadOk i t) (hst : 0 ≤ st.1)
    (hlog : 1 < 67.8 * i.windhi - 5.42 → 0 < t.logW) (hwh : 0.0947 < i.windhi) :
    0 < i.temp + 237.3 ∧ 0 < 237.3 + i.tmin ∧ 0 < 237.3 + i.tmax ∧ 0 < t.pT2 ∧ 0 < i.temp + 273.0 ∧
    t.logW ≠ 0 ∧ 0.5 ≤ (penmanParts crop i t s st).wind ∧ 0 ≤ (penmanParts crop i t s st).rsurf ∧
    0 < (penmanParts crop i t s st).den := by
  have p := C08_priestley_denominators_pos i t h
  have hw : 0.5 ≤ wind2m i.wind i.windhi t.logW := wind2m_ge _ _ _
  -- 1 + 5.42 ≤ 67.8 · 0.0947
  have hl : 0 < t.logW :=
    hlog (lt_sub_iff_add_lt.2 (lt_of_le_of_lt (by norm_num) (mul_lt_mul_of_pos_left hwh (by norm_num))))
  have hr : 0 ≤ (penmanParts crop i t s st).rsurf :=
    ite_of_both (0 ≤ ·) _ (by norm_num) (div_nonneg hst (by norm_num))
  refine ⟨p.1, neg_lt_iff_pos_add'.1 h.tmin, neg_lt_iff_pos_add'.1 h.tmax, p.2.2.1,
    p.1.trans_le (add_le_add_right (by norm_num) _), hl.ne', hw, hr, ?_⟩
  exact penmanDen_pos _ _ _ _ p.2.2.2.1 (psych_pos _ h.pAtm) hr (le_trans (by norm_num) hw)

/-- **CO2 response of method 2** (`stomat`, water.go:711-729): with a non-negative radiation term
(RAD·20 or the sunshine estimate) the three denominators of KCO2 are positive above 80 ppm CO2. -/
theorem C08_kco2_denominators_pos (co2 g : ℚ) (hg : 0 ≤ g) (h : 80 < co2) :
    0 < (220.0 + 0.158 * g) + co2 - (80.0 - 0.0036 * g) ∧ 0 < 350.0 - (80.0 - 0.0036 * g) ∧
    0 < (220.0 + 0.158 * g) + 350.0 - (80.0 - 0.0036 * g) := by
  -- KCo1 is positive and the compensation term at most 80
  have hk : 0 < 220.0 + 0.158 * g := by positivity
  have hc : 80.0 - 0.0036 * g ≤ 80 := (sub_le_self _ (by positivity)).trans (by norm_num)
  exact ⟨add_sub_pos hk (hc.trans_lt h), sub_pos.2 (hc.trans_lt (by norm_num)), add_sub_pos hk (hc.trans_lt (by norm_num))⟩

/-- **Canopy resistance positive** (partial: for the first CO2 method only above the CO2
compensation point, see `C08_stomat_log_argument_fails_at`). `stomat` leaves RSTOM at the 100 s/m set
by the caller when the sun stays below 8° (DLE ≤ 0); otherwise AMAX ≥ 0.1 by the coded floor, the
arguments of both logarithms are ≥ 1, both assimilation closures and the daily gross assimilation
are positive, so RSTOM = CO2·(1 + SATDEF/SATBETA)/(ALPH·Agross) > 0. The sunshine hours are never
raised. -/
theorem C08_stomat_resistance_pos_partial (i : PIn ℚ) (t : Tr ℚ) (s : Sol ℚ) (satdef : ℚ)
    (h : StomatOk i t s satdef) :
    0 < (stomat i t s satdef 100.0).1 ∧ (s.dle ≤ 0 → (stomat i t s satdef 100.0).1 = 100) ∧
    (stomat i t s satdef 100.0).2.1 ≤ i.sund ∧
    (0 < s.dle → 0.1 ≤ (photo i t s).amax ∧ 1 ≤ (photo i t s).xArg ∧ 1 ≤ (photo i t s).yArg) := by
  by_cases hd : s.dle ≤ 0
  · simp only [stomat, if_pos hd]
    exact ⟨by norm_num, fun _ => by norm_num, le_refl _, fun h0 => absurd hd (not_le.mpr h0)⟩
  · have hd' : 0 < s.dle := not_le.mp hd
    have hp := photo_pos i t s h hd'
    have hx := photo_xArg_ge i t s h hd'
    have hc := satur_pos _ _ t.eC hp.1 hp.2.1 (h.eC (saturArg_neg _ _ hp.1 hp.2.1))
    have ho := satur_pos _ _ t.eO hp.2.2 hp.2.1 (h.eO (saturArg_neg _ _ hp.2.2 hp.2.1))
    simp only [stomat, if_neg hd]
    exact ⟨rstomOf_pos _ _ _ _ _ h.alph h.co2 h.satdef h.satbeta (dtga_pos i s _ _ hc ho hd' h.sund),
      fun h0 => absurd h0 hd, dtga_sund_le _ _ _ _, fun _ => ⟨stoAmax_ge i t s, hx.1, hx.2⟩⟩

/-- **Denominators of `stomat`** on a day with DLE > 0 (water.go:689, 741-745, 761-763, 776, 785, 790,
800-801), under the same assumptions: every one of them is positive. -/
theorem C08_stomat_denominators_pos (i : PIn ℚ) (t : Tr ℚ) (s : Sol ℚ) (satdef : ℚ)
    (h : StomatOk i t s satdef) (hd : 0 < s.dle) :
    0 < s.dle * 3600.0 ∧ 0 < t.sSsl * (photo i t s).amax ∧ 0 < (5.0 - t.sSsl) * (photo i t s).amax ∧
    0 < 1 + t.logX ∧ 0 < 1 + t.logY ∧ 0 < 5.0 * (photo i t s).amax ∧ 0 < 1 + (photo i t s).z ∧
    0 < (if (photo i t s).phc3 < (photo i t s).phc4 then (photo i t s).phc3 else (photo i t s).phc4) ∧
    0 < (if (photo i t s).pho3 < (photo i t s).phc4 then (photo i t s).pho3 else (photo i t s).phc4) ∧
    0 < 0.8 * s.drc ∧ 0 < i.co2 * (1 + satdef / i.satbeta) ∧
    (i.co2meth = 1 → 0 < i.co2 + 2.0 * (17.5 * t.p2T)) := by
  have hp := photo_pos i t s h hd
  have hx := photo_xArg_ge i t s h hd
  have hz := photo_z_nonneg i t s h hd
  have ha : 0 < (photo i t s).amax := stoAmax_pos i t s
  have hsd : 0 ≤ satdef / i.satbeta := div_nonneg h.satdef h.satbeta.le
  have hco2 := h.co2
  exact ⟨by positivity, mul_pos (h.ssl hd).1 ha, mul_pos (five_sub_ssl_pos i t s h hd) ha,
    add_pos_of_pos_of_nonneg one_pos (h.logX hx.1), add_pos_of_pos_of_nonneg one_pos (h.logY hx.2), by positivity,
    add_pos_of_pos_of_nonneg one_pos hz, ite_of_both (0 < ·) _ hp.1 hp.2.1, ite_of_both (0 < ·) _ hp.2.2 hp.2.1,
    by have := h.drc hd; positivity, mul_pos hco2 (add_pos_of_pos_of_nonneg one_pos hsd),
    fun h1 => by have := (h.comp h1).1; positivity⟩

/-- `C08_stomat_resistance_pos_partial` for the state the Penman-Monteith day under a crop leaves in RSTOM, with the
saturation deficit of the day (non-negative for a relative humidity of at most 100 %) -/
theorem C08_penman_rstom_pos_partial (i : PIn ℚ) (t : Tr ℚ) (h3 : i.meth = 3) (hc : i.crop = true)
    (hmin : 0 < t.eTmin) (hmax : 0 < t.eTmax) (hrh : i.rh ≤ 100)
    (h : ∀ sd : ℚ, 0 ≤ sd → StomatOk i t (dayLength t) sd) :
    0 < (petRaw i t).rstom ∧ (petRaw i t).sund ≤ i.sund := by
  have hs := satdefOf_nonneg i t hmin hmax hrh
  have := C08_stomat_resistance_pos_partial i t (dayLength t) (satdefOf i t) (h _ hs)
  -- under a crop `penman` leaves in RSTOM and SUND what `stomat` returns
  rw [petRaw_penman i t h3, hc]
  exact ⟨this.1, this.2.2.1⟩

/-- a hot day: daily mean 50 °C (2^((50−10)/10) = 16, compensation point 280 ppm) at 250 ppm CO2 -/
def hotDay : PIn ℚ :=
  { meth := 3, crop := true, tagN := 190, ctrans := true, co2meth := 1, verd := 0, temp := 50, tmin := 47, tmax := 53,
    rad := 12, sund := 10, rh := 30, wind := 2, etnull := 0, lat := 30, alti := 100, windhi := 2, kcoa := 1, fkc := 1,
    fkb := 0.4, co2 := 250, mintmp := 2, alph := 40, satbeta := 2.5, dt := 1, et0Prev := 0, rstomPrev := 100,
    satdefPrev := 0, radsumPrev := 0, fkf := [], fku := [] }

def hotTr : Tr ℚ :=
  { (Tr.ofList ([] : List ℚ)) with p2T := 16, sSsl := 0.9, logX := 0, logY := 0, eGrass := 0.316 }

def hotSol : Sol ℚ :=
  { dl := 14.5, dle := 13.2, ext := 40, rdn := 50000000, drc := 20000000, dec := 22, sinld := 0.2, cosld := 0.8,
    rdnRaw := 50000000 }

/-- **Outside the hypothesis the property fails**: at 50 °C and 250 ppm (first CO2 method) the
light-use efficiency is negative and the argument of the first logarithm of `stomat`
(water.go:741) is negative — `math.Log` returns NaN there, RSTOM becomes NaN and, with the CO2
influence on the stomata switched on, so do ET0 and the potential ET of the day, which neither
the floor nor the cap catches (replayed on the real code by the harness). -/
theorem C08_stomat_log_argument_fails_at :
    ¬ (17.5 * hotTr.p2T < hotDay.co2) ∧ (photo hotDay hotTr hotSol).effe < 0 ∧
    (photo hotDay hotTr hotSol).xArg < 0 := by
  decide +kernel

/-- admissible state for the whole of `Evatra`: as `WF` for the partition part, with
`elai = exp(−.5·LAI) ∈ [0, 1]` supplied from outside -/
structure FullWF (f : FIn ℚ) (elai : ℚ) : Prop where
  dz : 0 < f.part.dz
  elai0 : 0 ≤ elai
  elai1 : elai ≤ 1
  wudich : ∀ d ∈ f.part.wudich, 0 ≤ d
  top : f.part.wmin.headD 0 / 3 < f.part.w0

/-- For the whole model of `Evatra` (potential ET of the chosen method composed
with the partition): the potential ET the partition works with is the floored and capped value of
the method, it lies in [0, cap], and actual evaporation plus the uptake of all layers does not
exceed it — for all five methods (and unknown method numbers), all weather, all values of the
transcendental calls, all soil states. -/
theorem C08_full_actual_le_potential_le_cap (f : FIn ℚ) (t : Tr ℚ) (elai : ℚ) (expc : List ℚ)
    (h : FullWF f elai) :
    (full f t elai expc).2.verdu = verdunst f.p t elai ∧
    0 ≤ (full f t elai expc).2.verdu ∧ (full f t elai expc).2.verdu ≤ cap f.p.crop ∧
    0 ≤ (full f t elai expc).2.eta ∧
    (∀ x ∈ (full f t elai expc).2.tp, 0 ≤ x) ∧
    (full f t elai expc).2.eta + (full f t elai expc).2.tp.sum ≤ (full f t elai expc).2.verdu := by
  have hwf : WF { f.part with crop := f.p.crop, verdu0 := (petRaw f.p t).verdu0, elai := elai, expc := expc } :=
    { dz := h.dz, elai0 := h.elai0, elai1 := h.elai1, wudich := h.wudich, top := h.top }
  -- `(full f t elai expc).2` is by definition the partition of that record
  have hv : (full f t elai expc).2.verdu = verdunst f.p t elai := partition_verdu _
  have hb := C08_pet_method_bounds f.p t elai
  exact ⟨hv, hv ▸ hb.2.1, hv ▸ hb.2.2, (C08_eta_le_evmax _ hwf).1, C08_tp_nonneg _ hwf, (C08_actual_le_potential _ hwf).1⟩

def ordinaryDay : PIn ℚ :=
  { meth := 3, crop := true, tagN := 180, ctrans := true, co2meth := 1, verd := 8, temp := 20, tmin := 14, tmax := 26,
    rad := 0, sund := 8, rh := 60, wind := 3, etnull := 4, lat := 52, alti := 50, windhi := 10, kcoa := 1, fkc := 1.1,
    fkb := 0.4, co2 := 400, mintmp := 2, alph := 40, satbeta := 2.5, dt := 1, et0Prev := 3, rstomPrev := 100,
    satdefPrev := 0.9, radsumPrev := 500,
    fkf := [0.1, 0.1, 0.2, 0.3, 0.4, 0.4, 0.4, 0.3, 0.2, 0.1, 0.1, 0.1],
    fku := [0.1, 0.1, 0.1, 0.2, 0.2, 0.2, 0.2, 0.2, 0.1, 0.1, 0.1, 0.1] }

/-- rational stand-ins for the transcendental values of `ordinaryDay` (2^((20−10)/10) = 2 exactly,
pow(257.3, 2) = 66203.29 exactly) -/
def ordinaryTr : Tr ℚ :=
  { sDec := 0.99, sinDec := 0.39, sinLat := 0.79, cosDec := 0.92, cosLat := 0.62, asDL := 0.55, sin8 := 0.139,
    asDLE := 0.27, cosYear := -0.99, tanLat := 1.28, tanDec := 0.43, sha := 2.15, sinSha := 0.84, pw2 := 0.29,
    sq := 0.84, eDrc := 0.99, pAtm := 0.994, eTmax := 5.5, eTmin := 2.6, eTminPT := 2.6, eT := 3.83,
    pT2 := 66203.29, p4min := 6797000000, p4max := 8010000000, sqVap := 1.22, sqVapPT := 1.26, logW := 6.51,
    p2T := 2, cosTag := -0.99, sSsl := 0.88, logX := 5.1, logY := 3.6, eGrass := 0.316, eC := 0.02, eO := 0.3 }

example : RadOk ordinaryDay ordinaryTr ∧ (0.0947 : ℚ) < ordinaryDay.windhi ∧
    (1 < 67.8 * ordinaryDay.windhi - 5.42 → 0 < ordinaryTr.logW) ∧ (-122 : ℚ) < ordinaryDay.temp := by
  refine ⟨⟨?_, ?_, ?_, ?_, ?_, ?_, ?_, ?_, ?_⟩, ?_, ?_, ?_⟩ <;> decide +kernel

example : (-(pi / 2) ≤ ordinaryTr.asDL ∧ ordinaryTr.asDL ≤ pi / 2) ∧
    (-(pi / 2) ≤ ordinaryTr.asDLE ∧ ordinaryTr.asDLE ≤ pi / 2) ∧ ordinaryTr.asDLE ≤ ordinaryTr.asDL := by
  decide +kernel

/-- the hypotheses `StomatOk` of the canopy-resistance theorems hold on `ordinaryDay` (sun above 8° for 14 h) -/
example : ∀ sd : ℚ, 0 ≤ sd → StomatOk ordinaryDay ordinaryTr (dayLength ordinaryTr) sd := by
  intro sd hsd
  exact
    { alph := by decide +kernel, co2 := by decide +kernel, satbeta := by decide +kernel, satdef := hsd,
      sund := by decide +kernel, dl := by decide +kernel, drc := fun _ => by decide +kernel,
      ssl := fun _ => by decide +kernel, comp := fun _ => by decide +kernel, logX := fun _ => by decide +kernel,
      logY := fun _ => by decide +kernel, eGrass := by decide +kernel, eC := fun _ => by decide +kernel,
      eO := fun _ => by decide +kernel }

/-- a composed state satisfying `FullWF` (the `cropDay` of the partition part under `ordinaryDay`) -/
example : FullWF { p := ordinaryDay, part := cropDay, lai := 1.8, prop := 0.3 } 0.4 := by
  refine ⟨?_, ?_, ?_, ?_, ?_⟩ <;> decide +kernel

end Hermes.EvatraPet
