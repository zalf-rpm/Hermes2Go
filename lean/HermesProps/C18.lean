/-
C18 — A command-line crop-parameter override equals the same edit in the crop parameter file; an
out-of-range override is rejected as a whole.
Model: HermesModel/CropOverride.lean (crop_calibration.go) on top of the classic reader of
HermesModel/CropParam.lean.  The theorems hold for every arithmetic `α` (they compare which value
is stored where); range tests are the comparisons of the code.
-/
import HermesProofs.CropOverride
import HermesModel.CropWitness
set_option linter.unusedSectionVars false

namespace Hermes.CropOverride
open Hermes.CropParam
section
variable {α : Type} [Add α] [Div α] [Neg α] [LT α] [LE α] [DecidableLT α] [DecidableLE α]
  [OfNat α 0] [OfNat α 1] [OfNat α 10] [OfNat α 20] [OfNat α 24] [OfNat α 30] [OfNat α 40] [OfNat α 50]
  [OfNat α 100] [OfNat α 200] [OfNat α 10000] [TruncInt α]


/-- **Override ≡ edit, every overridable parameter.** For every token record within the shape
limits, every prior state (its TSUM array has the ten cells of the Go array), every base /
per-stage / per-organ parameter used with the indices of its kind, every stage 1 … NRENTW and organ
1 … NRKOM and every value: applying the override after the classic reader has read the file gives
exactly the state the reader produces from the record with that token replaced — VELOC/200,
concentrations/100, the permanent-crop condition and the total temperature sum derived from TSUM
included. -/
theorem C18_override_eq_edit (t : Classic α) (rep : Bool) (s : State α) (e : Entry α)
    (h : t.WF) (hs : s.tsum.length = 10) (hov : e.overridable = true)
    (hok : entryOk t.nrkom t.nrentw e = true) :
    applyEntry rep (applyClassicCore t rep s) e = applyClassicCore (edit t e) rep s := by
  rcases e with ⟨n, v⟩ | ⟨n, st, v⟩ | ⟨n, st, o, v⟩
  · -- both readers as flat records; a base parameter is one field, written once before or after `reset`
    simp only [applyClassicCore, stagesClassic_eq_folds, reset_eq]
    cases n <;> simp [Entry.overridable] at hov
    case MAXAMAX | MINTMP | WUMAXPF | VELOC | YIFAK =>
      all_goals
        simp only [applyEntry, edit]
        rfl
    case INITCONCNBIOM | INITCONCNROOT =>
      -- reader and override alike write the concentration only when the permanent-crop condition fails
      all_goals
        simp only [applyEntry, edit]
        by_cases hk : (t.dauer && rep) = true <;> simp only [hk, if_true] <;> rfl
  all_goals
    simp only [entryOk, Bool.and_eq_true, decide_eq_true_iff] at hok
    have hlen := h.stages_len
    have hn := h.nrentw_le
    have hk : st - 1 < t.stages.length := by omega
    -- an entry with a stage index edits a token of the stage table, which only the stage loop reads: both readers are the loop
    -- from the same `s0`, over all rows of the table (it has exactly `NRENTW`, before and after the edit)
    obtain ⟨s0, h0, hnr, hts, hloop⟩ := applyClassicCore_stages t rep s
    rw [hloop t rfl, hloop (edit t _) (by cases n <;> rfl), stagesClassic_eq_folds, stagesClassic_eq_folds,
      List.take_of_length_le (Nat.le_of_eq hlen)]
    cases n <;> simp [Entry.overridable] at hov
    -- the reader folds every column of the stage table separately (`stagesClassic_eq_folds`); the edit sets row `st - 1` of
    -- the table (`modifyAt_eq_set`), that is cell `st - 1` of its own column (`List.map_set`, then `foldSet_set`), and
    -- leaves every other column as it was (`map_set_self`)
    all_goals
      simp only [applyEntry, edit, modifyAt_eq_set _ _ _ hk, List.take_of_length_le, List.length_set, Nat.le_of_eq hlen,
        List.map_set, map_set_self _ _ _ hk, foldSet_set, List.length_map, hk, Nat.zero_add]
  case TSUM =>
    -- the totals are left: the override derives its total again from the first `NRENTW` cells, the column the loop has just
    -- written
    have := foldSet_take (t.stages.map (·.tsum)) 0 s0.tsum (by rw [hts, List.length_map]; omega)
    simp only [List.drop_zero, List.length_map, hlen] at this
    rw [hnr, h0, List.take_set, this]
  case PRO | DEAD =>
    -- the organ tables are left: one cell of row `st - 1` (`foldOv_set`; the row has five slots, `NRKOM` of them in use)
    all_goals
      have hslots := h.slots _ (List.getElem_mem hk)
      have hkom := h.nrkom_le
      rw [foldOv_set _ _ _ _ _ _ _ _ (by rw [List.getElem?_map, List.getElem?_eq_getElem hk]; rfl) (by omega) (by omega)]
      simp only [Nat.zero_add]

/-- The full run-time path: with the crop file named on the batch line and a valid single
override, `OverwriteCropParameters` after `ReadCropParamClassic` equals `ReadCropParamClassic` of
the edited record. -/
theorem C18_overwrite_after_read_eq_read_edited (t : Classic α) (rep : Bool) (s : State α)
    (e : Entry α) (h : t.WF) (hs : s.tsum.length = 10) (hov : e.overridable = true)
    (hok : entryOk t.nrkom t.nrentw e = true) :
    overwrite true rep [e] (applyClassicCore t rep s) = applyClassicCore (edit t e) rep s := by
  obtain ⟨_, hk, hn⟩ := applyClassicCore_shape t rep s
  simp only [overwrite, isValid, hk, hn, List.all_cons, List.all_nil, hok, Bool.and_true, Bool.not_true,
    List.foldl_cons, List.foldl_nil]
  exact C18_override_eq_edit t rep s e h hs hov hok

/-- If any single test of any entry fails — a value outside its coded range,
a stage beyond the stages of the file, an organ beyond its organs, a name that does not belong to
the map its index count selects — nothing is applied, the valid entries included. -/
theorem C18_invalid_override_rejected_whole (fileMatches rep : Bool) (o : List (Entry α)) (s : State α)
    (e : Entry α) (he : e ∈ o) (hbad : entryOk s.nrkom s.nrentw e = false) :
    overwrite fileMatches rep o s = s := by
  unfold overwrite
  cases fileMatches
  · rfl
  · have : isValid s.nrkom s.nrentw o = false := by
      unfold isValid
      rw [Bool.eq_false_iff]
      intro hall
      have := List.all_eq_true.mp hall e he
      rw [hbad] at this
      exact Bool.noConfusion this
    simp [this]

/-- the verdict is exactly "every entry passes every test" (independent of map iteration order) -/
theorem C18_valid_iff_every_entry_in_range (nrkom nrentw : Nat) (o : List (Entry α)) :
    isValid nrkom nrentw o = true ↔ ∀ e ∈ o, entryOk nrkom nrentw e = true := by
  unfold isValid; exact List.all_eq_true

/-- an override naming another crop file changes nothing -/
theorem C18_other_file_untouched (rep : Bool) (o : List (Entry α)) (s : State α) :
    overwrite false rep o s = s := rfl

end

/-- `c_TSUM_1=150` on a two-stage record with temperature sums 100 and 200: the override and the
edited file both give TSUM = [150, 200] and the total 350 (the input class of finding F10: the code before the repair left the total at 300). -/
theorem C18_tsum_override_updates_total :
    (applyEntry false (applyClassicCore tsumWitness false zeroState) (.stage .TSUM 1 150)).tsum.take 2 = [150, 200] ∧
    (applyEntry false (applyClassicCore tsumWitness false zeroState) (.stage .TSUM 1 150)).tendsum = 350 ∧
    (applyClassicCore (edit tsumWitness (.stage .TSUM 1 150)) false zeroState).tendsum = 350 := by
  decide

example : entryOk (α := Int) 4 2 (.stage .BAS 2 5) = true := by decide
example : entryOk (α := Int) 4 2 (.stage .BAS 3 5) = false := by decide          -- stage beyond the file
example : entryOk (α := Int) 4 2 (.base .MAXAMAX 0) = false := by decide         -- excluded bound
example : entryOk (α := Int) 4 2 (.part .PRO 1 4 1) = true := by decide
example : entryOk (α := Int) 4 2 (.stage .MAXAMAX 1 5) = false := by decide      -- name in the wrong map
example : (applyEntry false (applyClassicCore tsumWitness false zeroState) (.stage .BAS 2 7)).bas.take 2 = [3, 7] := by decide
example : (overwrite true false [.base .MAXAMAX (55 : Int), .stage .BAS 9 5] (applyClassicCore tsumWitness false zeroState)).maxamax = 80 ∧
    (overwrite true false [.base .MAXAMAX (55 : Int), .stage .BAS 2 5] (applyClassicCore tsumWitness false zeroState)).maxamax = 55 := by decide

end Hermes.CropOverride
