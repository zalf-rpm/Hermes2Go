/-
C02 — soil mineral-N balance: the denitrification step, theorems about the SOURCE.

`HermesModel/Generated/ImpDenitr.lean` is the Lean translation of the current Go source of `hermes.Denitr` (hermes/denit.go:6-84),
regenerated on every run (the translator, DESIGN §4.3) and validated against the compiled function by the `srcimp.Denitr`
correspondence.  `HermesProofs/ImpDenitr.lean` proves that it refines the model `Mineral.denitr` for every state and every
behaviour of the `math` functions; the theorems below restate the removal law of C02 and the non-negativity of C07 about the
translated source.
-/
import HermesProofs.ImpDenitr
import HermesProps.C02

namespace Hermes.Props.C02Source
open Hermes.Imp Hermes.Mineral Hermes.ImpDenitr
open Hermes.Generated.Imp.Denitr (St)

/-- **The source refines the model**: `C1[0..2]` and `CUMDENIT` after `Denitr` are the model's, nitrate below 30 cm is untouched. -/
theorem C02_source_denitr_refines_model (m : MathFns ℚ) (s : St ℚ) (h3 : 3 ≤ s.g_C1.length) :
    [rd (Generated.Imp.Denitr.run m s).g_C1 0, rd (Generated.Imp.Denitr.run m s).g_C1 1, rd (Generated.Imp.Denitr.run m s).g_C1 2]
        = (denitr (rd s.g_C1 0) (rd s.g_C1 1) (rd s.g_C1 2) (fthetaOf m s) (ftempOf m s) s.g_CUMDENIT).c ∧
      (Generated.Imp.Denitr.run m s).g_CUMDENIT
        = (denitr (rd s.g_C1 0) (rd s.g_C1 1) (rd s.g_C1 2) (fthetaOf m s) (ftempOf m s) s.g_CUMDENIT).cumdenit ∧
      (∀ j : Nat, 3 ≤ j → rd (Generated.Imp.Denitr.run m s).g_C1 (j : Int) = rd s.g_C1 (j : Int)) ∧
      (Generated.Imp.Denitr.run m s).g_C1.length = s.g_C1.length :=
  denitr_refines m s h3

/-- the moisture and temperature factors of the source lie in [0, 1] -/
theorem factors_unit (m : MathFns ℚ) (s : St ℚ)
    (hexp : ∀ x : ℚ, x ≤ 0 → 0 ≤ m.exp x ∧ m.exp x ≤ 1) (hpow : ∀ x y : ℚ, 0 ≤ x → 0 ≤ m.pow x y)
    (hrel : 0 ≤ thetarelOf s) :
    0 ≤ fthetaOf m s ∧ fthetaOf m s ≤ 1 ∧ 0 ≤ ftempOf m s ∧ ftempOf m s ≤ 1 := by
  have hf : ∀ z : ℚ, 0 ≤ z → 0 ≤ 1 - m.exp ((-1) * z) ∧ 1 - m.exp ((-1) * z) ≤ 1 := fun z hz =>
    have h := hexp ((-1) * z) (by linarith)
    ⟨sub_nonneg.mpr h.2, sub_le_self _ h.1⟩
  have ht : 0 ≤ tempOf s := by unfold tempOf; rw [← max_def_lt]; exact le_max_right _ _
  obtain ⟨a, b⟩ := hf _ (hpow (thetarelOf s / 0.766) 6 (div_nonneg hrel (by norm_num)))
  obtain ⟨c, d⟩ := hf _ (hpow (tempOf s / 15.5) 4.6 (div_nonneg ht (by norm_num)))
  exact ⟨a, b, c, d⟩

/-- **Denitrification in the source removes exactly what it books, never more than is present**: for non-negative nitrate in the
three top layers the top-30-cm nitrate after the call equals the nitrate before minus ΔCUMDENIT, and CUMDENIT does not
decrease — for every state with non-negative relative water content (`hrel`) and every `exp` that maps non-positive numbers into
[0, 1] and `pow` that is non-negative on a non-negative base (true of Go's `math.Exp`, `math.Pow`). -/
theorem C02_source_denitr_removes_exactly (m : MathFns ℚ) (s : St ℚ) (h3 : 3 ≤ s.g_C1.length)
    (h0 : 0 ≤ rd s.g_C1 0) (h1 : 0 ≤ rd s.g_C1 1) (h2 : 0 ≤ rd s.g_C1 2)
    (hexp : ∀ x : ℚ, x ≤ 0 → 0 ≤ m.exp x ∧ m.exp x ≤ 1) (hpow : ∀ x y : ℚ, 0 ≤ x → 0 ≤ m.pow x y)
    (hrel : 0 ≤ thetarelOf s) :
    rd (Generated.Imp.Denitr.run m s).g_C1 0 + rd (Generated.Imp.Denitr.run m s).g_C1 1 + rd (Generated.Imp.Denitr.run m s).g_C1 2
        = rd s.g_C1 0 + rd s.g_C1 1 + rd s.g_C1 2 - ((Generated.Imp.Denitr.run m s).g_CUMDENIT - s.g_CUMDENIT) ∧
      s.g_CUMDENIT ≤ (Generated.Imp.Denitr.run m s).g_CUMDENIT := by
  obtain ⟨hc, hcum, _, _⟩ := denitr_refines m s h3
  obtain ⟨f1, f2, f3, f4⟩ := factors_unit m s hexp hpow hrel
  obtain ⟨hs, hle⟩ := Hermes.Nitro.C02_denit_removes_exactly (rd s.g_C1 0) (rd s.g_C1 1) (rd s.g_C1 2)
    (fthetaOf m s) (ftempOf m s) s.g_CUMDENIT h0 h1 h2 f1 f2 f3 f4
  rw [← hc, ← hcum] at hs
  rw [← hcum] at hle
  refine ⟨?_, hle⟩
  simpa [add_assoc] using hs

/-- **C07, nitrate stays non-negative through denitrification, for the source**: for every state with non-negative nitrate in the
three top layers, whatever the rate (any `exp`/`pow`), the nitrate the translated `Denitr` leaves in those layers is ≥ 0. -/
theorem C07_source_denitr_nonneg (m : MathFns ℚ) (s : St ℚ) (h3 : 3 ≤ s.g_C1.length)
    (h0 : 0 ≤ rd s.g_C1 0) (h1 : 0 ≤ rd s.g_C1 1) (h2 : 0 ≤ rd s.g_C1 2) :
    0 ≤ rd (Generated.Imp.Denitr.run m s).g_C1 0 ∧ 0 ≤ rd (Generated.Imp.Denitr.run m s).g_C1 1 ∧
      0 ≤ rd (Generated.Imp.Denitr.run m s).g_C1 2 := by
  obtain ⟨hc, _, _, _⟩ := denitr_refines m s h3
  simp only [denitr] at hc
  split_ifs at hc
  · -- nitrate present: every layer holds `denitLayer` of what it held
    simp only [List.cons.injEq, and_true] at hc
    rw [hc.1, hc.2.1, hc.2.2]
    exact ⟨denitLayer_nonneg _ _ _ h0, denitLayer_nonneg _ _ _ h1, denitLayer_nonneg _ _ _ h2⟩
  · -- none: the layers are untouched
    simp only [List.cons.injEq, and_true] at hc
    rw [hc.1, hc.2.1, hc.2.2]
    exact ⟨h0, h1, h2⟩

def demoState : St ℚ :=
  { p_thetasatFromPorges := true, g_WG_1 := [0.3, 0.3, 0.3], v_thetasat := 0, g_PORGES := [0.4, 0.4, 0.4], g_C1 := [10, 5, 2, 7],
    v_layerFraction := [], v_tempOb30 := 0, g_TSOIL_0 := [12, 11, 10, 9], v_DENIT := 0, v_FN := 0, g_N2OdenDaily := 0,
    g_N2Odencum := 0, g_CUMDENIT := 3 }

-- non-vacuity: a concrete state meets the hypotheses on the state
example : 3 ≤ demoState.g_C1.length ∧ 0 ≤ rd demoState.g_C1 0 ∧ 0 ≤ thetarelOf demoState := by
  decide +kernel

end Hermes.Props.C02Source
