/-
C07 — Nitrogen pools stay non-negative and organic/fertiliser bookkeeping is exact.
Models: HermesModel/Mineral.lean (`mineral` nitro.go:577-696, tillage mixing nitro.go:245-288,
denitrification removal), HermesModel/Nitro.lean (`nmove`: uptake and fixation crediting,
nitro.go:721-735, 857-861), HermesModel/FertPool.lean (fertiliser applied / dissolved over a run:
applications, `mineral` calls, measurement days).  Exact-arithmetic statements over ℚ.
-/
import HermesProofs.Nitro
import HermesProofs.Mineral
import HermesProofs.FertPool
namespace Hermes.Mineral
open Hermes.Nitro

/-- **What mineralisation removes from an organic pool is exactly what the mineralised-amount
counter gains**: pool + counter of every layer is unchanged by `mineral`, for both pools, in the
warm and in the frozen branch, for every state. -/
theorem C07_mineral_pool_conserved (top : Bool) (dsumm nh4sum wred : ℚ) (L : Layer ℚ) (a : Acc ℚ) :
    (layer top dsumm nh4sum wred L a).1.naos + (layer top dsumm nh4sum wred L a).1.minaos = L.naos + L.minaos ∧
    (layer top dsumm nh4sum wred L a).1.nfos + (layer top dsumm nh4sum wred L a).1.minfos = L.nfos + L.minfos := by
  unfold layer
  by_cases h : 0 < (L.tdLo + L.tdUp) / 2
  · simp only [h, if_true]; constructor <;> ring
  · simp [h]

/-- **Pools stay non-negative, counters only grow**, when the rate constants are in [0,1]
(numerically: soil temperature below ≈ 60 °C): the moisture factor of the warm branch is in [0,1]
by its clamps. -/
theorem C07_pools_nonneg (top : Bool) (dsumm nh4sum wred : ℚ) (L : Layer ℚ) (a : Acc ℚ)
    (hk0 : 0 ≤ L.kt0) (hk0' : L.kt0 ≤ 1) (hk1 : 0 ≤ L.kt1) (hk1' : L.kt1 ≤ 1)
    (hn : 0 ≤ L.naos) (hf : 0 ≤ L.nfos) :
    0 ≤ (layer top dsumm nh4sum wred L a).1.naos ∧ 0 ≤ (layer top dsumm nh4sum wred L a).1.nfos ∧
    L.minaos ≤ (layer top dsumm nh4sum wred L a).1.minaos ∧ L.minfos ≤ (layer top dsumm nh4sum wred L a).1.minfos := by
  unfold layer
  by_cases h : 0 < (L.tdLo + L.tdUp) / 2
  · simp only [h, if_true]
    obtain ⟨m0, m1⟩ := miredWarm_unit L.wg L.wnor wred L.wmin L.porges
    generalize miredWarm L.wg L.wnor wred L.wmin L.porges = m at m0 m1
    -- a rate constant and a moisture factor in [0, 1] take at most the whole pool
    have unit : ∀ k n : ℚ, 0 ≤ k → k ≤ 1 → 0 ≤ n → 0 ≤ k * n * m ∧ k * n * m ≤ n := fun k n hk hk' hn =>
      mul_right_comm k n m ▸ frac_between (mul_nonneg hk m0) (mul_le_one₀ hk' m0 m1) hn
    obtain ⟨a1, a2⟩ := unit L.kt0 L.naos hk0 hk0' hn
    obtain ⟨b1, b2⟩ := unit L.kt1 L.nfos hk1 hk1' hf
    rw [clamp0_of_nonneg _ a1, clamp0_of_nonneg _ b1]
    exact ⟨sub_nonneg.mpr a2, sub_nonneg.mpr b2, le_add_of_nonneg_right a1, le_add_of_nonneg_right b1⟩
  · simp only [h, if_false]
    exact ⟨hn, hf, le_refl _, le_refl _⟩

-- the hypotheses on the rate constants `kt0`, `kt1` of `C07_pools_nonneg` are satisfiable
example : (0 : ℚ) ≤ (1 / 100) ∧ (1 / 100 : ℚ) ≤ 1 := by norm_num

/-- **Dissolved fertiliser never exceeds fertiliser applied — one layer, every temperature.** Both
invariants UMS ≤ DSUMM and NH4UMS ≤ NH4Sum are preserved by the step of `mineral` in any layer, in
the warm branch (moisture factor clamped to [0,1]) and in the frozen branch (mean layer temperature
≤ 0, nitro.go:662-694), and neither counter decreases. The frozen branch has no upper clamp and no
`WG > WMIN` test on its `WG < WRED` formula; what it needs instead is `FrozenOrd`: *if* the top layer
is frozen and drier than WRED, its wilting point lies below WRED — which is what `calcWRed` produces
(WRED = WMIN + 0.6…0.66·(W − WMIN) with WMIN < W, C15). Without it the statement is false
(`C07_dissolved_frozen_order_sharp`). -/
theorem C07_dissolved_le_applied (top : Bool) (dsumm nh4sum wred : ℚ) (L : Layer ℚ) (a : Acc ℚ)
    (hord : top = true → FrozenOrd wred L) (h1 : a.ums ≤ dsumm) (h2 : a.nh4ums ≤ nh4sum) :
    (layer top dsumm nh4sum wred L a).2.ums ≤ dsumm ∧ a.ums ≤ (layer top dsumm nh4sum wred L a).2.ums ∧
    (layer top dsumm nh4sum wred L a).2.nh4ums ≤ nh4sum ∧ a.nh4ums ≤ (layer top dsumm nh4sum wred L a).2.nh4ums :=
  layer_dissolved top dsumm nh4sum wred L a hord h1 h2

/-- The frozen branch alone, with the plain ordering hypothesis WMIN < WRED. -/
theorem C07_dissolved_le_applied_frozen (dsumm nh4sum wred : ℚ) (L : Layer ℚ) (a : Acc ℚ)
    (hfrozen : (L.tdLo + L.tdUp) / 2 ≤ 0) (hord : L.wmin < wred) (h1 : a.ums ≤ dsumm) (h2 : a.nh4ums ≤ nh4sum) :
    (layer true dsumm nh4sum wred L a).2.ums ≤ dsumm ∧ (layer true dsumm nh4sum wred L a).2.nh4ums ≤ nh4sum ∧
    (layer true dsumm nh4sum wred L a).1.dums = 0.4 * miredCold L.wg L.w wred L.wmin L.porges * (dsumm - a.ums) ∧
    miredCold L.wg L.w wred L.wmin L.porges ≤ 1 := by
  obtain ⟨a1, _, a3, _⟩ := layer_dissolved true dsumm nh4sum wred L a (fun _ _ _ => hord) h1 h2
  refine ⟨a1, a3, ?_, (miredCold_unit L.wg L.w wred L.wmin L.porges (fun _ => hord)).2⟩
  have : ¬ 0 < (L.tdLo + L.tdUp) / 2 := not_lt.mpr hfrozen
  simp [layer, this]

/-- **… through one call of `mineral`** (`Mineral.run`: the loop over the mineralisation layers, any
number of layers, every temperature profile). -/
theorem C07_dissolved_le_applied_mineral (dsumm nh4sum wred : ℚ) (ls : List (Layer ℚ)) (a : Acc ℚ)
    (hord : ∀ L ∈ ls.head?, FrozenOrd wred L) (h1 : a.ums ≤ dsumm) (h2 : a.nh4ums ≤ nh4sum) :
    (run dsumm nh4sum wred ls a).2.ums ≤ dsumm ∧ a.ums ≤ (run dsumm nh4sum wred ls a).2.ums ∧
    (run dsumm nh4sum wred ls a).2.nh4ums ≤ nh4sum ∧ a.nh4ums ≤ (run dsumm nh4sum wred ls a).2.nh4ums :=
  go_dissolved dsumm nh4sum wred ls true a (fun _ => hord) h1 h2

/-- **… as an invariant of the run**: over any sequence of fertiliser applications (non-negative
amounts added to DSUMM / NH4Sum), calls of `mineral` (any layers, any temperatures, `FrozenOrd` for the
top layer) and measurement days (DSUMM and UMS reset to 0), starting from a state with
UMS ≤ DSUMM and NH4UMS ≤ NH4Sum (the initial state has all four at 0), both inequalities hold at
the end — hence after every event. -/
theorem C07_dissolved_le_applied_invariant (evs : List (FertPool.Ev ℚ)) (p : FertPool.Pool ℚ)
    (hok : ∀ e ∈ evs, FertPool.EvOk e) (h : FertPool.Inv p) :
    FertPool.Inv (FertPool.runEvs p evs) ∧ ∀ q ∈ FertPool.trace p evs, FertPool.Inv q := by
  fun_induction FertPool.trace p evs with
  | case1 => exact ⟨h, fun q hq => nomatch hq⟩
  | case2 p e es ih =>
    have h1 := FertPool.apply_inv p e (hok e (List.mem_cons_self ..)) h
    obtain ⟨a, b⟩ := ih (fun x hx => hok x (List.mem_cons_of_mem _ hx)) h1
    exact ⟨a, List.forall_mem_cons.mpr ⟨h1, b⟩⟩

/-- The ordering hypothesis of the frozen branch cannot be dropped: with WRED = 0.19 below the
wilting point 0.20 and a frozen, dry top layer the factor is 20, `mineral` dissolves eight times
what was applied. (No run produces WRED ≤ WMIN[0]: `calcWRed` puts it 60-66 % of the way from the
wilting point to field capacity; the check counts the days on which the hypothesis fails — none.) -/
theorem C07_dissolved_frozen_order_sharp :
    ∃ (L : Layer ℚ) (a : Acc ℚ) (dsumm wred : ℚ), a.ums ≤ dsumm ∧ ¬ FrozenOrd wred L ∧
      dsumm < (layer true dsumm 0 wred L a).2.ums := by
  refine ⟨{ tdUp := -1, tdLo := -1, kt0 := 0, kt1 := 0, wg := 0, wnor := 3 / 10, wmin := 1 / 5, porges := 2 / 5,
            w := 3 / 10, naos := 0, nfos := 0, minaos := 0, minfos := 0 }, ⟨0, 0, 0, 0⟩, 100, 19 / 100, ?_, ?_, ?_⟩ <;>
    decide +kernel

-- the hypotheses are satisfiable: a frozen, dry top layer with WMIN = 0.10 < WRED = 0.22, 30 of 100 kg dissolved
example : FrozenOrd (22 / 100) (⟨-3, -1, 0, 0, 15 / 100, 3 / 10, 1 / 10, 2 / 5, 3 / 10, 0, 0, 0, 0⟩ : Layer ℚ) ∧
    ((30 : ℚ) ≤ 100) := by
  unfold FrozenOrd; norm_num

/-- a year in the life of the four counters: dressing 80 (30 as ammonium), frozen day, warm day,
measurement day, second dressing, warm day -/
def fertYear : List (FertPool.Ev ℚ) :=
  [.fert 80 30,
   .mineral (22 / 100) [⟨-3, -1, 0, 0, 15 / 100, 3 / 10, 1 / 10, 2 / 5, 3 / 10, 900, 40, 0, 0⟩],
   .mineral (22 / 100) [⟨8, 6, 1 / 1000, 1 / 100, 25 / 100, 3 / 10, 1 / 10, 2 / 5, 3 / 10, 900, 40, 0, 0⟩,
                        ⟨6, 5, 1 / 1000, 1 / 100, 25 / 100, 3 / 10, 1 / 10, 2 / 5, 3 / 10, 700, 10, 0, 0⟩],
   .measure, .fert 40 0,
   .mineral (22 / 100) [⟨8, 6, 1 / 1000, 1 / 100, 25 / 100, 3 / 10, 1 / 10, 2 / 5, 3 / 10, 900, 40, 0, 0⟩]]

example : (∀ e ∈ fertYear, FertPool.EvOk e) ∧ FertPool.Inv ⟨0, 0, ⟨0, 0, 0, 0⟩⟩ := by
  refine ⟨?_, by unfold FertPool.Inv; decide +kernel⟩
  simp only [fertYear, List.forall_mem_cons, List.not_mem_nil, false_imp_iff, implies_true, FertPool.EvOk]
  decide +kernel

/-- **Tillage mixing preserves the profile sums** of every pool for every mixing depth inside the
profile (m ≤ number of layers of the pool arrays, also deeper than the four layers of the
mineralised-amount counters, which are mixed over the layers they have); the clamp of `C1` can
only add. -/
theorem C07_tillage_preserves_sums (m : ℕ) (mix : Bool) (nfos naos minfos minaos c1 : List ℚ)
    (h1 : m ≤ nfos.length) (h2 : m ≤ naos.length) (h3 : m ≤ c1.length) (h4 : minaos.length = minfos.length) :
    (tillage m (m : ℚ) ((min m minfos.length : ℕ) : ℚ) mix nfos naos minfos minaos c1).nfos.sum = nfos.sum ∧
    (tillage m (m : ℚ) ((min m minfos.length : ℕ) : ℚ) mix nfos naos minfos minaos c1).naos.sum = naos.sum ∧
    (tillage m (m : ℚ) ((min m minfos.length : ℕ) : ℚ) mix nfos naos minfos minaos c1).minfos.sum = minfos.sum ∧
    (tillage m (m : ℚ) ((min m minfos.length : ℕ) : ℚ) mix nfos naos minfos minaos c1).minaos.sum = minaos.sum ∧
    c1.sum ≤ (tillage m (m : ℚ) ((min m minfos.length : ℕ) : ℚ) mix nfos naos minfos minaos c1).c1.sum := by
  unfold tillage
  cases mix
  · simp
  · simp only [if_true]
    refine ⟨mix_sum _ _ h1, mix_sum _ _ h2, mix_sum _ _ (Nat.min_le_right _ _), ?_, mix_sum_clamp _ _ h3⟩
    exact mix_sum _ _ (by rw [h4]; exact Nat.min_le_right _ _)

/-- the input class of finding F12: five mixed layers, four counter slots -/
example : (tillage 5 (5 : ℚ) ((min 5 4 : ℕ) : ℚ) true [1, 2, 3, 4, 5, 6] [6, 5, 4, 3, 2, 1] [1, 0, 3, 0] [4, 2, 0, 2]
    [7, 1, 1, 1, 0, 9]).minfos = [1, 1, 1, 1] := by
  decide +kernel

end Hermes.Mineral

namespace Hermes.Nitro

/-- **Uptake is credited exactly once per day**, however many sub-steps follow the first: the
uptake counter ends the day at its start value plus the (clamped) uptake of the layers taken in
the first sub-step. -/
theorem C07_uptake_credited_once (i : In ℚ) (rest : List (In ℚ)) :
    (runDay i rest).aufnasum = i.aufnasum + (step { i with first := true }).pe.sum :=
  (runRest_const (·.aufnasum) (fun j o => (step_later_counters j o).1) rest _).trans
    (step_first_counters { i with first := true } rfl).1

/-- **Fixation is credited exactly once per day**, however many sub-steps follow the first: the
crop N ends the day at its start value plus the uptake of the layers plus (inside the season) the
day's N fixation. -/
theorem C07_fixation_credited_once (i : In ℚ) (rest : List (In ℚ)) :
    (runDay i rest).pesum = i.pesum + (step { i with first := true }).pe.sum + (if i.inSeason then i.schnorr else 0) :=
  (runRest_const (·.pesum) (fun j o => (step_later_counters j o).2) rest _).trans
    (step_first_counters { i with first := true } rfl).2

/-- the input class of finding F13: two sub-steps, fixation 1 kg N/ha -/
def fixWitness : In ℚ :=
  { dz := 10, wdt := 1 / 2, dv := 0, first := true, fluss0 := 0, q := [0, 0], qdrain := 0, draidep := 0, outn := 2,
    wg := [1 / 5, 1 / 5, 1 / 5], w := [3 / 10, 3 / 10, 3 / 10], d := [0, 0], c1 := [10, 10], pe := [0, 0], dn := [0, 0],
    stab := -3 / 2, inSeason := true, afterSow := true, schnorr := 1, pesum := 50, aufnasum := 0, outsum := 0,
    nleag := 0, drainloss := 0 }

example : (runDay fixWitness [fixWitness, fixWitness]).pesum
    = 50 + (step { fixWitness with first := true }).pe.sum + 1 := by
  rw [C07_fixation_credited_once]; simp [fixWitness]

end Hermes.Nitro
