/-
C12 — Date conversion is a calendar-correct, order-preserving bijection.
The model (a transcription of hermes/helper.go:113-299) is HermesModel/Calendar.lean.  Core Lean, no Mathlib.
-/
import HermesProofs.Calendar
import HermesModel.Generated.Facts
namespace Hermes.Calendar

/-- Day of the year counted from the month lengths of the true calendar. -/
def trueDoy (yr mon tg : Nat) : Nat :=
  ((List.range (mon - 1)).map fun k => daysInMonth yr (k + 1)).sum + tg

def gregorianLeap (year : Nat) : Prop := year % 4 = 0 ∧ (year % 100 ≠ 0 ∨ year % 400 = 0)

/-- date → day number → date, for every date 1901-01-01 … 2099-12-31. -/
theorem C12_kalender_masdat (yr mon tg : Nat) (h : ValidDate yr mon tg) :
    kalenderDate (masdat yr mon tg) = some (yr + 1900, mon, tg) :=
  kalender_masdat h

/-- The range of day numbers is exactly 1 … 72 684 (199·365 + 49 leap days). -/
theorem C12_range_ends : masdat 1 1 1 = 1 ∧ masdat 199 12 31 = 72684 := by
  decide

/-- day number → date → day number: every day number of the range is hit by exactly the date
`kalenderDate` returns, so the conversion is a bijection between valid dates and 1 … 72 684. -/
theorem C12_masdat_kalender (m : Nat) (h1 : 1 ≤ m) (h2 : m ≤ 72684) :
    ∃ yr mon tg, ValidDate yr mon tg ∧ kalenderDate m = some (yr + 1900, mon, tg) ∧
      masdat yr mon tg = m :=
  kalender_of_range m h1 h2

/-- Injectivity on valid dates (consequence of the round trip). -/
theorem C12_masdat_injective (y1 m1 t1 y2 m2 t2 : Nat) (h1 : ValidDate y1 m1 t1)
    (h2 : ValidDate y2 m2 t2) (h : masdat y1 m1 t1 = masdat y2 m2 t2) :
    (y1, m1, t1) = (y2, m2, t2) := by
  have e := kalender_masdat h1
  rw [h, kalender_masdat h2] at e
  simp only [Option.some.injEq, Prod.mk.injEq] at e ⊢
  omega

/-- Consecutive calendar days map to consecutive day numbers. -/
theorem C12_masdat_succ (yr mon tg a b c : Nat) (h : ValidDate yr mon tg)
    (hn : nextDate (yr, mon, tg) = (a, b, c)) : masdat a b c = masdat yr mon tg + 1 :=
  (nextDate_spec yr mon tg a b c h hn).1

/-- Order preservation: the later date (lexicographically by year, month, day) has the larger
day number. -/
theorem C12_masdat_strict_mono (y1 m1 t1 y2 m2 t2 : Nat) (h1 : ValidDate y1 m1 t1)
    (h2 : ValidDate y2 m2 t2)
    (hlt : y1 < y2 ∨ (y1 = y2 ∧ (m1 < m2 ∨ (m1 = m2 ∧ t1 < t2)))) :
    masdat y1 m1 t1 < masdat y2 m2 t2 := by
  refine Weather.isDay_lt (Weather.isDay_of_date h1) (Weather.isDay_of_date h2) (hlt.imp_right fun ⟨e, h⟩ => ⟨e, ?_⟩)
  subst e
  unfold ztdat
  rcases h with h | ⟨rfl, h⟩
  · -- an earlier month ends before the later month starts
    have := monthOffset_mono y1 h1.mon_pos h h2.mon_le
    have := h1.tg_le
    have := h2.tg_pos
    omega
  · omega

/-- The derived day-of-year equals the true day of the year. -/
theorem C12_doy_correct (yr mon tg : Nat) (h : ValidDate yr mon tg) :
    ztdat yr mon tg = trueDoy yr mon tg := by
  obtain ⟨_, _, hm1, hm2, _, _⟩ := h
  unfold ztdat trueDoy
  rw [show mon = mon - 1 + 1 by omega, monthOffset_eq_sum yr (mon - 1) (by omega)]
  rfl

/-- and the day number of a date is the day number of 1 January plus day-of-year minus one. -/
theorem C12_doy_is_offset (yr mon tg : Nat) :
    masdat yr mon tg + 1 = masdat yr 1 1 + ztdat yr mon tg :=
  masdat_eq_jan1_add yr mon tg

/-- Leap years of the model (years with 366 day numbers) are exactly the years divisible by
four, which in 1901 … 2099 are exactly the Gregorian leap years. -/
theorem C12_leap_iff_div4 (yr : Nat) (hy1 : 1 ≤ yr) (hy2 : yr ≤ 199) :
    (masdat (yr + 1) 1 1 - masdat yr 1 1 = 366 ↔ yr % 4 = 0) ∧
    (masdat (yr + 1) 1 1 - masdat yr 1 1 = 365 ↔ yr % 4 ≠ 0) ∧
    (yr % 4 = 0 ↔ gregorianLeap (1900 + yr)) := by
  rw [Weather.masdat_next_year yr hy1, Nat.add_sub_cancel_left]
  unfold gregorianLeap Weather.diy
  exact ⟨by split <;> omega, by split <;> omega, by omega⟩

/-- Tie to the source: the month tables the model uses are the ones `harness/cmd/extract` reads
out of hermes/helper.go on every run. -/
theorem C12_tables_match_source :
    Generated.dateConverterMT = mtStart ∧ Generated.kalenderDateMT = mtEnd := by decide

/-- The century split `cent` keeps the two-digit year of `year = 1900 + yr` unambiguous. -/
def SplitOk (cent yr : Nat) : Prop := cent ≤ yr ∧ yr ≤ 99 + cent

/-- Rendering a day number and parsing the text again gives the day number and its day of the
year — for each of the four formats, without separator or with any one-character separator,
and for the short formats with every century split that keeps the year unambiguous. -/
theorem C12_parse_render (f : DateFormat) (sep : List Char) (hsep : sep.length ≤ 1) (cent : Nat)
    (yr mon tg : Nat) (h : ValidDate yr mon tg) (hc : f.isShort = true → SplitOk cent yr) :
    ∃ txt, render f sep (masdat yr mon tg) = some txt ∧
      parse f cent txt = some (ztdat yr mon tg, masdat yr mon tg) := by
  have hk := kalender_masdat h
  obtain ⟨hy1, hy2, hm1, hm2, ht1, ht2⟩ := h
  have ht31 : tg < 100 := by have := (month_facts yr mon hm1 hm2).2.1; omega
  have hm100 : mon < 100 := by omega
  refine ⟨_, by rw [render, hk], ?_⟩
  have hyr : yr + 1900 - 1900 = yr := Nat.add_sub_cancel ..
  have h4 : parseNat? (d4 (yr + 1900)) = some (yr + 1900) := parse_d4 _ (by omega)
  have h2 : parseNat? (d2 (if yr > 99 then yr - 100 else yr)) = some _ := parse_d2 _ (by split <;> omega)
  have hcent : f.isShort = true → (if (if yr > 99 then yr - 100 else yr) < cent then (if yr > 99 then yr - 100 else yr) + 100
      else if yr > 99 then yr - 100 else yr) = yr := by
    intro hs
    obtain ⟨hc1, hc2⟩ := hc hs
    split <;> split <;> omega
  have hok : ¬ (mon < 1 ∨ mon > 12 ∨ yr < 1) := by omega
  have hlong : ¬ (yr + 1900 < 1901) := by omega
  cases f
  · simp only [parse, DateFormat.isShort, hyr, extractDate_render tg mon _ sep _ hsep true rfl ht31 hm100 h2, if_true,
      hcent rfl, if_neg hok]
  · simp only [parse, DateFormat.isShort, hyr, extractDate_render tg mon _ sep _ hsep false rfl ht31 hm100 h4,
      Bool.false_eq_true, if_false, if_neg hlong, if_neg hok]
  · simp only [parse, DateFormat.isShort, hyr, extractDate_render mon tg _ sep _ hsep true rfl hm100 ht31 h2, if_true,
      hcent rfl, if_neg hok]
  · simp only [parse, DateFormat.isShort, hyr, extractDate_render mon tg _ sep _ hsep false rfl hm100 ht31 h4,
      Bool.false_eq_true, if_false, if_neg hlong, if_neg hok]

example : ValidDate 100 2 29 := by simp [ValidDate, daysInMonth]          -- 29 February 2000
example : ValidDate 199 12 31 := by simp [ValidDate, daysInMonth]         -- 31 December 2099
example : SplitOk 50 149 ∧ SplitOk 50 50 := by simp [SplitOk]       -- split 50: 1950 … 2049
example : kalenderDate 72684 = some (2099, 12, 31) := by decide
example : nextDate (100, 2, 28) = (100, 2, 29) ∧ nextDate (101, 2, 28) = (101, 3, 1) := by decide

end Hermes.Calendar
