/-
C01 — Soil water mass balance closes on every simulated day.
Model: HermesModel/Water.lean (one call of `Water`, hermes/water.go:805-995).  The theorems are
exact-arithmetic statements over ℚ for every number of layers, every state and every sub-step
length; round-off is measured by the search stage of the check, not assumed.
-/
import HermesProofs.Water
import HermesProofs.Substeps
import Mathlib.Tactic.LinearCombination
namespace Hermes.Water

/-- water stored in a profile with the water contents `wg`, in cm: Σ WG·dz -/
def storage (dz : ℚ) (wg : List ℚ) : ℚ := (wg.map (· * dz)).sum

theorem storage_map_div (dz : ℚ) (hdz : dz ≠ 0) (l : List ℚ) : storage dz (l.map (· / dz)) = l.sum := by
  unfold storage
  rw [List.map_map, List.map_congr_left (g := id) fun a _ => by simp only [Function.comp, id, div_mul_cancel₀ a hdz],
    List.map_id]

/-- For every well-formed state (any number of layers ≥ 1, no sign or range
hypothesis on any quantity), one call of the water routine changes the stored water by exactly:
surface flux (rain + irrigation − evaporation, `FLUSS0·wdt`) − root uptake (after the availability
limit) − flux through the lower boundary `Q1[N]` (percolation > 0, capillary/groundwater supply < 0)
− drain outflow. -/
theorem C01_water_step_balance (i : In ℚ) (n : ℕ) (h : WF i n) (hdz : i.dz ≠ 0) :
    storage i.dz (step i).wg1 =
      storage i.dz i.wg - i.wdt * (step i).tp.sum + i.fluss0 * i.wdt
        - (step i).q1.getLastD 0 - (step i).qdrain := by
  have hb := (step_phases i n h).2
  rw [step_wg1, storage_map_div i.dz hdz, step_tp, step_qdrain]
  unfold storage
  linarith

/-- The percolation and capillary counters together grow by ten times the
flux through the leaching depth minus the groundwater uptake term, the drain counter by ten times
the drain flux (cm → mm). -/
theorem C01_water_reported_fluxes (i : In ℚ) :
    (step i).dSicker + (step i).dCapsum = 10 * ((step i).q1.getD i.outn 0) - 10 * i.gwauf * i.wdt ∧
    (step i).dDraisum = 10 * (step i).qdrain := by
  rw [step_dSicker, step_dCapsum, step_dDraisum]
  constructor
  · split <;> ring
  · ring

/-- the water routine iterated over the sub-steps of a day, the new water contents fed back as the next
sub-step's start (as run.go:602-603 does) -/
noncomputable def dayRun : List (In ℚ) → List ℚ → List (Out ℚ)
  | [], _ => []
  | i :: rest, wg =>
    let o := step { i with wg := wg }
    o :: dayRun rest o.wg1

noncomputable def dayFinal : List (In ℚ) → List ℚ → List ℚ
  | [], wg => wg
  | i :: rest, wg => dayFinal rest (step { i with wg := wg }).wg1

theorem step_wg1_length (i : In ℚ) (n : ℕ) (h : WF i n) : (step i).wg1.length = n := by
  rw [step_wg1, List.length_map, (step_phases i n h).1]

theorem dayRun_length (subs : List (In ℚ)) (wg : List ℚ) : (dayRun subs wg).length = subs.length := by
  fun_induction dayRun subs wg with
  | case1 => rfl
  | case2 i rest wg o ih => simp [ih]

/-- The storage change over the whole list of sub-steps is
the sum of the per-sub-step terms — whatever the number of sub-steps and their lengths. -/
theorem C01_water_day_balance (n : ℕ) (dz : ℚ) (hdz : dz ≠ 0) :
    ∀ (subs : List (In ℚ)) (wg : List ℚ), wg.length = n →
      (∀ i ∈ subs, ∀ wg', wg'.length = n → WF { i with wg := wg' } n) → (∀ i ∈ subs, i.dz = dz) →
      storage dz (dayFinal subs wg) =
        storage dz wg +
          ((dayRun subs wg).zip subs).foldr
            (fun p acc => acc + (p.2.fluss0 * p.2.wdt - p.2.wdt * p.1.tp.sum - p.1.q1.getLastD 0 - p.1.qdrain)) 0 := by
  intro subs wg hl hwf hdzs
  fun_induction dayFinal subs wg with
  | case1 => simp [dayRun]
  | case2 i rest wg ih =>
    have hwf1 := hwf i (by simp) wg hl
    obtain rfl : i.dz = dz := hdzs i (by simp)
    have hb := C01_water_step_balance { i with wg := wg } n hwf1 hdz
    rw [dayRun, List.zip_cons_cons, List.foldr_cons,
      ih (step_wg1_length _ n hwf1) (fun j hj => hwf j (by simp [hj])) (fun j hj => hdzs j (by simp [hj])), hb]
    ring

/-- **The sub-steps cover exactly the day.** For every soil state, rain depth and surface flux the
adaptive selection of run.go:513-543,596-601 yields `STEPS ≥ 1` sub-steps of length `WDT` with
`STEPS · WDT = 1` in exact arithmetic: no part of the day's fluxes is dropped or applied twice.
(In floating point `round(1/(1/n))` is evaluated by the driver and compared with the probe stream
of real runs; the code before the repair truncated instead of rounding and lost one sub-step for
n = 93, 99, ….) -/
theorem C01_substeps_cover_day (i : SubIn ℚ) :
    1 ≤ (substeps i).2 ∧ ((substeps i).2 : ℚ) * (substeps i).1 = 1 := by
  unfold substeps
  simp only
  split
  · exact steps_of_int ⌈zsrOf i⌉ (Int.one_le_ceil_iff.mpr (by linarith [one_le_zsrOf i]))
  · simp

/-- With `n` sub-steps of equal length `wdt`, `n · wdt = 1`, and the same
surface flux in each of them, the surface term of the day balance is the whole day's surface flux
(rain + irrigation − actual evaporation). -/
theorem C01_equal_substeps_surface (n : ℕ) (wdt fluss0 : ℚ) (h : (n : ℚ) * wdt = 1) :
    ((List.replicate n (fluss0 * wdt)).sum) = fluss0 := by
  rw [List.sum_replicate, nsmul_eq_mul]
  linear_combination fluss0 * h

noncomputable def exampleIn : In ℚ :=
  { dz := 10, wdt := 1 / 2, first := true, fluss0 := 3, wg := [0.30, 0.25], tp := [0.02, 0.01],
    w := [0.32, 0.30], wmin := [0.10, 0.12], ev := [0, 0], evTail := 0, nfk := [0.9, 0.6],
    caps := List.replicate 21 0.1, grw := 4, draidep := 1, draifak := 0.5, outn := 2, gwauf := 0, q0prev := 0 }

example : WF exampleIn 2 := by constructor <;> simp [exampleIn]

end Hermes.Water
