/-
C17 — Cluster partitioning executes every batch line exactly once.
Model: HermesModel/Partition.lean (calchermesbatch.go:47-89 and hermes_main.go:99-131,202-209).
-/
import HermesProofs.Partition
namespace Hermes.Partition

/-- The printed ranges are contiguous, disjoint, non-empty and cover line 1 … `lines`
(`Chain 0 l lines`: the first range starts at 1, each next one starts right after the previous
ends, the last ends at `lines`) — for every line count and node count. -/
theorem C17_ranges_contiguous_disjoint_cover (lines nodes : Nat) (hn : 1 ≤ nodes) :
    Chain 0 (ranges lines nodes) lines := by
  unfold ranges
  by_cases h : lines / nodes = 0
  · simp only [h, if_true]
    rw [List.range_eq_range']
    exact singles_chain lines 0 lines (Nat.zero_add _).symm
  · simp only [h, if_false]
    have hs : 1 ≤ lines / nodes := Nat.pos_of_ne_zero h
    have hr : lines % nodes < nodes := Nat.mod_lt _ (by omega)
    have := Nat.div_add_mod lines nodes
    exact slices_chain (lines / nodes) (lines % nodes) nodes hs hr nodes 1 0 (by omega) lines (by omega)

/-- The number of ranges equals the job-array size the calculator reports. -/
theorem C17_ranges_length_eq_size (lines nodes : Nat) (_hn : 1 ≤ nodes) :
    (ranges lines nodes).length = size lines nodes := by
  unfold ranges size
  by_cases h : lines / nodes = 0
  · simp [h]
  · simp only [h, if_false]
    exact slices_length _ _ nodes nodes 1 0 (by omega)

/-- Handing every printed range to the simulator's `-lines a-b` option executes, taken together
and in order, every batch line index 0 … lines−1 exactly once. -/
theorem C17_selected_union_exactly_once (lines nodes : Nat) (hn : 1 ≤ nodes) :
    (ranges lines nodes).flatMap (fun r => selected r.1 r.2 lines) = List.range lines := by
  have h := chain_selected lines (C17_ranges_contiguous_disjoint_cover lines nodes hn) (Nat.le_refl _)
  rw [h, Nat.sub_zero, List.range_eq_range']

/-- Every range handed over is well-formed for the option parser (first ≤ last, last ≥ 1). -/
theorem C17_ranges_wellformed (lines nodes : Nat) (hn : 1 ≤ nodes) :
    ∀ r ∈ ranges lines nodes, 1 ≤ r.1 ∧ r.1 ≤ r.2 ∧ r.2 ≤ lines := by
  have key : ∀ {s e : Nat} {l : List (Nat × Nat)}, Chain s l e → ∀ r ∈ l, s + 1 ≤ r.1 ∧ r.1 ≤ r.2 ∧ r.2 ≤ e := by
    intro s e l h
    induction h with
    | nil s => intro r hr; cases hr
    | cons s hi rest e h1 hc ih =>
      intro r hr
      have := hc.le
      rcases List.mem_cons.mp hr with rfl | hr
      · exact ⟨Nat.le_refl _, h1, this⟩
      · have := ih r hr; omega
  intro r hr
  have := key (C17_ranges_contiguous_disjoint_cover lines nodes hn) r hr
  omega

/-- Regression witness (F5): at the pinned commit the `lines < nodes` branch printed nothing while
reporting a job-array size of `lines`. -/
theorem C17_pinned_fewer_lines_than_nodes_fails_at :
    rangesPinned 3 4 = [] ∧ size 3 4 = 3 := by decide

example : ranges 10 3 = [(1, 4), (5, 7), (8, 10)] := by decide
example : ranges 3 4 = [(1, 1), (2, 2), (3, 3)] := by decide
example : selected 5 7 10 = [4, 5, 6] := by decide

end Hermes.Partition
