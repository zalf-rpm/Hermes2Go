/-
C07 stated about the *translation of the current source* (hermes/nitro.go → `HermesModel/Generated/Impnmove.lean`, `Impmineral.lean`,
regenerated on every run by the translator (DESIGN §4.3); tied to the running code additionally by the srcimp correspondence): for `nmove` the
crediting of uptake and fixation to crop N, mineral N ≥ 0 and the bounds of the uptake; for `mineral` the organic pools and their
counters and the dissolved / applied fertiliser sums.  No hand-written model stands between these theorems and the source text: they
break when a statement that touches the quantities they speak about changes.
-/
import HermesProofs.ImpNmoveCredit
import HermesProofs.ImpNmoveNonneg
import HermesProofs.ImpNmoveUptake
import HermesProofs.ImpMineralPools
import HermesProofs.ImpMineralDissolved
import HermesProofs.ImpMineralNonneg
import Mathlib.Tactic.Linarith
import Mathlib.Tactic.IntervalCases
import Mathlib.Tactic.NormNum

namespace Hermes.Generated.Imp.nmove
open Hermes.Imp

variable (m : MathFns ℚ)

/-- **First sub-step: crop N gains the day's uptake plus — only for a sown crop in its season — the day's fixation.** -/
theorem C07_source_credit_first_substep (s : St ℚ) (h : s.p_subd = 1) :
    (run m s).g_PESUM - s.g_PESUM
      = ((run m s).g_AUFNASUM - s.g_AUFNASUM) + (if cropStands s then s.g_SCHNORR else 0) := by
  have hd := run_diff m s
  simp only [h, true_and] at hd
  linarith

/-- **No crop, no credit**: with no sown crop on the field (before the sowing day, after the latest harvest day, or while
automatic sowing has not sown the next crop: SAAT = 0) the fixation left over from the last crop day is not credited. -/
theorem C07_source_no_fixation_credit_without_crop (s : St ℚ) (hc : ¬ cropStands s) :
    (run m s).g_PESUM - s.g_PESUM = (run m s).g_AUFNASUM - s.g_AUFNASUM := by
  have hd := run_diff m s
  simp only [hc, and_false, if_false, add_zero] at hd
  linarith

theorem not_sown_not_standing (s : St ℚ) (h : rd s.g_SAAT s.g_AKF_Index = 0) : ¬ cropStands s := by
  unfold cropStands; rw [h]; exact fun x => lt_irrefl _ x.1

/-- **Later sub-steps credit nothing**: PESUM, AUFNASUM and the uptake array are untouched by a call that is not the
first sub-step of the day. -/
theorem C07_source_no_credit_later_substep (s : St ℚ) (h : s.p_subd ≠ 1) :
    (run m s).g_PESUM = s.g_PESUM ∧ (run m s).g_AUFNASUM = s.g_AUFNASUM ∧ (run m s).g_PE = s.g_PE := by
  have hk := run_kept m s h
  exact ⟨congrArg Kept.pesum hk, congrArg Kept.aufnasum hk, congrArg Kept.pe hk⟩

/-- **Once per day, for any number of sub-steps**: after the first call and any list of later calls of the day, crop N has
gained the uptake booked in AUFNASUM plus — for a sown crop in its season — the day's fixation, once. -/
theorem C07_source_day_credit (s : St ℚ) (h : s.p_subd = 1) (ts : List (St ℚ)) (hts : ∀ t ∈ ts, t.p_subd ≠ 1) :
    (laterCalls m (run m s) ts).g_PESUM - s.g_PESUM
      = ((laterCalls m (run m s) ts).g_AUFNASUM - s.g_AUFNASUM) + (if cropStands s then s.g_SCHNORR else 0) := by
  obtain ⟨h1, h2⟩ := laterCalls_counters m (run m s) ts hts
  rw [h1, h2]
  exact C07_source_credit_first_substep m s h

/-- **Mineral N per layer is never negative after the transport step** (source level): for every state — any fluxes, uptake and
source terms, stable or not — and any number of layers inside the array, every layer of the profile ends ≥ 0. -/
theorem C07_source_nmove_mineral_n_nonneg (s : St ℚ) (hN : s.g_N.toNat ≤ s.g_C1.length) (j : Int) (h0 : 0 ≤ j) (h1 : j < s.g_N) :
    0 ≤ rd (run m s).g_C1 j := by
  have hk : ctl (upto9 m s) = ctl s := congrArg Diff.ctl (upto9_diff m s)
  have hn : (upto9 m s).g_N = s.g_N := congrArg Ctl.n hk
  have hl : (upto9 m s).g_C1.length = s.g_C1.length := congrArg Ctl.c1len hk
  have e : (top11 m (upto10 m s)).g_C1 = (top10 m (upto9 m s)).g_C1 := (top11_rest m (upto10 m s)).2
  rw [run_eq, e, top10_eq_fill m _ (by rw [hn, hl]; exact hN)]
  show 0 ≤ rd (fill _ 0 _ _) j
  rw [rd_fill _ _ _ _ (le_refl _) (by rw [hn, hl]; omega), if_pos ⟨h0, by rw [hn]; omega⟩]
  exact Nitro.clamp0_nonneg _

/-- **The uptake credited in the first sub-step is never negative, and it is zero or at most what the layer holds above 0.5 kg N/ha**
(source level): whatever the crop routine handed over, for every state and any number of layers inside the array. -/
theorem C07_source_nmove_uptake_bounds (s : St ℚ) (hs : s.p_subd = 1) (hN : s.g_N.toNat ≤ s.g_PE.length) (j : Int) (h0 : 0 ≤ j)
    (h1 : j < s.g_N) : 0 ≤ rd (run m s).g_PE j ∧ (rd (run m s).g_PE j ≤ rd s.g_C1 j - 0.5 ∨ rd (run m s).g_PE j = 0) := by
  rw [run_PE m s hs hN, rd_fill _ _ _ _ (le_refl _) (by omega), if_pos ⟨h0, by omega⟩]
  exact Nitro.clampPe_bd _ _

def demoState (saat : Int) : St ℚ :=
  { p_wdt := 1, p_subd := 1, p_zeit := 1000, v_Carray := [], g_N := 0, l_D := [], g_AD := [], g_WG_0 := [], g_C1 := [], g_PE := [],
    g_PESUM := 50, g_AUFNASUM := 20, g_DN := [], g_DZ_Num := 10, g_Q1 := [0], g_FLUSS0 := 0, l_V := [], g_W := [], l_DB := [], g_DV := 0,
    l_DISP := [], g_DRAIDEP := 0, l_KONV := [], g_QDRAIN := 0, g_DRAINLOSS := 0, g_C1NotStable := "", g_C1stabilityVal := 0,
    g_C1NotStableErr := "", g_OUTN := 0, g_OUTSUM := 0, g_SAAT := [saat], g_AKF_Index := 0, g_NLEAG := 0, g_ERNTE2 := [1100],
    g_SCHNORR := 444 / 100 }

-- a legume harvested, automatic sowing pending (SAAT = 0), stale fixation 4.44: nothing is credited; with the crop sown on day 900
-- it is
example : ¬ cropStands (demoState 0) := not_sown_not_standing _ rfl
example : cropStands (demoState 900) := by unfold cropStands demoState rd; decide

end Hermes.Generated.Imp.nmove

namespace Hermes.Generated.Imp.mineral
open Hermes.Imp

/-- **Mineralisation moves N from the pool to its counter, nothing is lost or created** (source level): for both organic pools and
every layer `j`, inside or outside the worked range, when the worked layers lie inside the pool arrays. -/
theorem C07_source_mineral_pool_conserved (m : MathFns ℚ) (s : St ℚ) (h : InRange s) (j : Int) :
    rd (run m s).g_NAOS j + rd (run m s).g_MINAOS j = rd s.g_NAOS j + rd s.g_MINAOS j ∧
    rd (run m s).g_NFOS j + rd (run m s).g_MINFOS j = rd s.g_NFOS j + rd s.g_MINFOS j :=
  ⟨(run_pool m s h).1.sum j, (run_pool m s h).2.sum j⟩

/-- the arrays keep their lengths (no layer appears or disappears) -/
theorem C07_source_mineral_pool_lengths (m : MathFns ℚ) (s : St ℚ) (h : InRange s) :
    (run m s).g_NAOS.length = s.g_NAOS.length ∧ (run m s).g_MINAOS.length = s.g_MINAOS.length ∧
    (run m s).g_NFOS.length = s.g_NFOS.length ∧ (run m s).g_MINFOS.length = s.g_MINFOS.length :=
  ⟨(run_pool m s h).1.pool, (run_pool m s h).1.ctr, (run_pool m s h).2.pool, (run_pool m s h).2.ctr⟩

/-- **Dissolved fertiliser never exceeds fertiliser applied** (source level, warm layers), and likewise the nitrified ammonium and the
ammonium applied.  Partial with respect to the property: the frozen branch of the top layer (no upper clamp of the moisture factor) is
excluded by `WarmInRange`; the hand model's `C07_dissolved_le_applied` covers it under its hypothesis `FrozenOrd`. -/
theorem C07_source_mineral_dissolved_le_applied_warm (m : MathFns ℚ) (s : St ℚ) (h : WarmInRange s)
    (h1 : s.g_UMS ≤ s.g_DSUMM) (h2 : s.g_NH4UMS ≤ s.g_NH4Sum) :
    ((run m s).g_DSUMM = s.g_DSUMM ∧ s.g_UMS ≤ (run m s).g_UMS ∧ (run m s).g_UMS ≤ (run m s).g_DSUMM) ∧
    ((run m s).g_NH4Sum = s.g_NH4Sum ∧ s.g_NH4UMS ≤ (run m s).g_NH4UMS ∧ (run m s).g_NH4UMS ≤ (run m s).g_NH4Sum) := by
  obtain ⟨a1, a2, a3⟩ := loop_dissolved m viewU (Or.inl rfl) (init s) _ h.2.2.2 h1
  obtain ⟨b1, b2, b3⟩ := loop_dissolved m viewN (Or.inr rfl) (init s) _ h.2.2.2 h2
  exact ⟨⟨a1, a2, a3.trans a1.ge⟩, ⟨b1, b2, b3.trans b1.ge⟩⟩

/-- `WarmInRange` is satisfiable: three layers of 10 cm, soil temperature 10 °C at every node -/
example (s : St ℚ) (h1 : s.g_IZM = 30) (h2 : s.g_DZ_Index = 10) (h3 : s.l_DUMS.length = 21) (h4 : s.l_DNH4UMS.length = 21)
    (h5 : s.g_TD = List.replicate 22 10) : WarmInRange s := by
  unfold WarmInRange
  rw [h1, h2, h3, h4, h5]
  refine ⟨by decide, by decide, by decide, ?_⟩
  intro k hk
  have hk3 : k < 3 := hk
  interval_cases k <;> norm_num [rd]

/-- the two first-order rate constants of the worked layers lie in [0,1] (`k = A·exp(E/(T + 273.16))` with `E` = −8400, −9800: a hypothesis about
`math.Exp`; numerically true below about 60 °C soil temperature, which the search checks on the Go side) -/
def RatesInUnit (m : MathFns ℚ) (s : St ℚ) : Prop :=
  ∀ k : Nat, k < (Int.tdiv s.g_IZM s.g_DZ_Index).toNat →
    (0 ≤ 4000000000.0 * m.exp ((-8400.0) / ((rd s.g_TD (1 + (k : Int)) + rd s.g_TD (1 + (k : Int) - 1)) / 2.0 + 273.16)) ∧
     4000000000.0 * m.exp ((-8400.0) / ((rd s.g_TD (1 + (k : Int)) + rd s.g_TD (1 + (k : Int) - 1)) / 2.0 + 273.16)) ≤ 1) ∧
    (0 ≤ 5600000000000.0 * m.exp ((-9800.0) / ((rd s.g_TD (1 + (k : Int)) + rd s.g_TD (1 + (k : Int) - 1)) / 2.0 + 273.16)) ∧
     5600000000000.0 * m.exp ((-9800.0) / ((rd s.g_TD (1 + (k : Int)) + rd s.g_TD (1 + (k : Int) - 1)) / 2.0 + 273.16)) ≤ 1)

/-- **Organic pools stay non-negative and the mineralised-amount counters only grow** (source level, warm and frozen branch, any
number of layers), for rate constants in [0,1] (`RatesInUnit`). -/
theorem C07_source_mineral_pools_nonneg (m : MathFns ℚ) (s : St ℚ) (h : InRange s) (h4 : (Int.tdiv s.g_IZM s.g_DZ_Index).toNat ≤ 4)
    (hk : RatesInUnit m s) (hA : ∀ j : Int, 0 ≤ rd s.g_NAOS j) (hF : ∀ j : Int, 0 ≤ rd s.g_NFOS j) (j : Int) :
    0 ≤ rd (run m s).g_NAOS j ∧ 0 ≤ rd (run m s).g_NFOS j ∧
    rd s.g_MINAOS j ≤ rd (run m s).g_MINAOS j ∧ rd s.g_MINFOS j ≤ rd (run m s).g_MINFOS j := by
  have a := loop_nonneg m viewA _ _ (Or.inl ⟨rfl, rfl, rfl⟩) (init s) _ h.1 h.2.1 (fun k hk' => (hk k hk').1) hA
  have f := loop_nonneg m viewF _ _ (Or.inr ⟨rfl, rfl, rfl⟩) (init s) _ h.2.2.1 h.2.2.2 (fun k hk' => (hk k hk').2) hF
  exact ⟨a.nonneg j, f.nonneg j, a.mono j, f.mono j⟩

/-- a `math` package whose exponential returns 10⁻¹³ (the size of `exp(−8400/(T + 273.16))` at 10 °C); the two rate constants
`A·exp` are then 4·10⁻⁴ and 0.56 -/
def demoMath : MathFns ℚ where
  exp := fun _ => 1 / 10000000000000
  log := id
  pow := fun x _ => x
  mod := fun x _ => x
  sqrt := id
  sin := id
  cos := id
  tan := id
  asin := id
  acos := id
  atan := id
  abs := id
  max := fun x _ => x
  min := fun x _ => x
  round := id
  floor := id
  ceil := id
  ofInt := fun i => (i : ℚ)
  toInt := fun _ => 0

example (s : St ℚ) : RatesInUnit demoMath s := by
  intro k _; norm_num [demoMath]

/-- the hypothesis is satisfiable: the shipped layout (IZM = 30 cm, DZ = 10 cm: three layers, four counter slots) -/
example (s : St ℚ) (h1 : s.g_IZM = 30) (h2 : s.g_DZ_Index = 10) (h3 : s.g_NAOS.length = 21) (h4 : s.g_NFOS.length = 21)
    (h5 : s.g_MINAOS.length = 4) (h6 : s.g_MINFOS.length = 4) : InRange s := by
  unfold InRange; rw [h1, h2, h3, h4, h5, h6]; decide

end Hermes.Generated.Imp.mineral
