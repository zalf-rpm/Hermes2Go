/-
C11 — Runs are isolated, always terminate, and failures are reported per run (DESIGN §6 C11).
Models: HermesModel/Dispatch.lean (dispatcher, result protocol of run.go:784-804, day loop header of
run.go:315/770), HermesModel/LangTag.lean (day-length searches of longday.go).

A run that ends in log.Fatal/panic is modelled as `run l = none`.  It still ends the whole batch before the other lines
are finished (`C11_fatal_line_ends_batch_fails_at`): reachable through the log.Fatal sites for malformed numbers and
missing required files, which are outside the property's list of reported-error classes.
Process-level effects of log.Fatal / panic, real time-outs and real interleavings are observed only.
-/
import HermesProofs.Dispatch
import HermesProofs.LangTag
import HermesProofs.Readers

namespace Hermes.Dispatch

variable {Line Result : Type}

/-- Termination of the dispatcher: every execution from the initial state
has at most 4·|sel|+1 transitions — whatever the lines do, fatal or not. -/
theorem C11_dispatch_every_execution_finite (M : Cfg Line Result) (sel : List (Nat × Line))
    (n : Nat) (s : State Line Result) (he : Exec M (init sel) n s) : n ≤ 4 * sel.length + 1 := by
  have := exec_bound he
  rw [measure_init] at this
  omega

/-- There is no infinite execution. -/
theorem C11_dispatch_no_infinite_execution (M : Cfg Line Result) (sel : List (Nat × Line)) :
    ¬ ∃ f : Nat → State Line Result, f 0 = init sel ∧ ∀ k, Step M (f k) (f (k + 1)) := by
  rintro ⟨f, h0, hstep⟩
  have hex : ∀ k, Exec M (f 0) k (f k) := by
    intro k
    induction k with
    | zero => exact Exec.refl _
    | succ k ih => exact exec_trans ih (Exec.step (hstep k) (Exec.refl _))
  have := hex (4 * sel.length + 2)
  rw [h0] at this
  have := C11_dispatch_every_execution_finite M sel _ _ this
  omega

/-- Exactly once: a maximal execution ends in the final
state, every selected id occurs among the finished results exactly as often as among the selected
lines (once, for `selectLines`), and each finished result is the run of its own line. -/
theorem C11_dispatch_terminates_exactly_once (M : Cfg Line Result) (sel : List (Nat × Line))
    (hc : 1 ≤ M.conc) (hok : NoFatal M sel) (n : Nat) (s : State Line Result)
    (he : Exec M (init sel) n s) (hst : Stuck M s) :
    Final s ∧ List.Perm (s.finished.map Prod.fst) (sel.map Prod.fst) ∧
      ∀ p ∈ s.finished, ∃ l, (p.1, l) ∈ sel ∧ M.run l = some p.2 := by
  obtain ⟨-, hf, hp⟩ := maximal hc hok he hst
  refine ⟨hf, finished_ids hp, ?_⟩
  intro p hpm
  exact mem_map_lineTag (hp.mem_iff.mp (List.mem_map_of_mem (f := finTag) hpm))

/-- The ids produced by the line selection are pairwise distinct, so "as often as selected" is
"exactly once". -/
theorem C11_selected_ids_distinct (startLine endLine : Nat) (lines : List Line) :
    ((selectLines startLine endLine lines).map Prod.fst).Nodup := by
  unfold selectLines
  have h : ((List.zip (List.range lines.length) lines).map Prod.fst).Nodup := by
    rw [List.map_fst_zip (by simp)]
    exact List.nodup_range
  exact (List.Sublist.map _ List.filter_sublist).nodup h

/-- At the end of a maximal execution over a non-empty selection the printed
summary consists of exactly the failed results in order of arrival, they are — as a multiset — the
failed selected lines, and the number printed after "Number of errors:" is the number of printed
error lines. -/
theorem C11_error_summary_exact (M : Cfg Line Result) (sel : List (Nat × Line)) (hne : sel ≠ [])
    (hc : 1 ≤ M.conc) (hok : NoFatal M sel) (n : Nat) (s : State Line Result)
    (he : Exec M (init sel) n s) (hst : Stuck M s) :
    s.summaryResult = some (s.finished.filter fun p => M.failed p.2) ∧
    List.Perm ((s.finished.filter fun p => M.failed p.2).map finTag)
      ((sel.map (lineTag M)).filter fun t => match t.2 with | some r => M.failed r | none => false) ∧
    printedCount s = ((s.finished.filter fun p => M.failed p.2).length : Int) := by
  obtain ⟨hinv, -, hp⟩ := maximal hc hok he hst
  have hfin : s.finished ≠ [] := fun h0 => by
    rw [h0] at hp
    exact hne (List.map_eq_nil_iff.mp hp.symm.eq_nil)
  have hs : s.summaryResult = some (s.finished.filter fun p => M.failed p.2) := by
    rw [hinv.sres, hinv.summ, if_neg (by simpa using hfin)]
  refine ⟨hs, ?_, ?_⟩
  · have := hp.filter (fun t => match t.2 with | some r => M.failed r | none => false)
    rw [List.filter_map] at this
    exact this
  · simp [printedCount, printedLines, hs]

/-- With an empty selection (`-lines` beyond the end of the batch file) nothing is ever received
and the program prints "Number of errors: -1" without a summary header (hermes_main.go:244-250). -/
theorem C11_empty_selection_prints_minus_one :
    printedCount (init ([] : List (Nat × Line)) : State Line Result) = -1 := by
  simp [printedCount, printedLines, init]

/-! non-vacuity: three lines, the middle one fails, concurrency 2 — complete executions exist, the
summary is the failed line, the printed count is 1 -/
example : NoFatal exCfg [(0, 10), (1, 11), (2, 12)] := by intro p _; exact ⟨_, rfl⟩
example : (runSchedule exCfg (init [(0, 10), (1, 11), (2, 12)]) (List.replicate 14 0)).summaryResult
    = some [(1, false)] := by decide
example : printedCount (runSchedule exCfg (init [(0, 10), (1, 11), (2, 12)]) [0, 0, 2, 1, 1, 1, 0, 0, 0, 0, 0, 0, 0]) = 1 := by
  decide
example : successors exCfg (runSchedule exCfg (init [(0, 10), (1, 11), (2, 12)]) (List.replicate 14 0)) = [] := by
  decide

/-- Witness (F9): the batch `[ok, fatal, ok]` has a maximal execution (the only one at concurrency 1)
that is stuck — the process is gone — with only the first line finished: the third line never
runs, no summary exists for the fatal line. -/
theorem C11_fatal_line_ends_batch_fails_at :
    let s := runSchedule fatalCfg (init [(0, 1), (1, 99), (2, 3)]) (List.replicate 8 0)
    s.dead = true ∧ successors fatalCfg s = [] ∧ s.finished = [(0, true)] ∧
      s.pending = [(2, 3)] ∧ ¬ Final s := by
  have hp : (runSchedule fatalCfg (init [(0, 1), (1, 99), (2, 3)]) (List.replicate 8 0)).pending = [(2, 3)] := by decide
  exact ⟨by decide, by decide, by decide, hp, fun h => by rw [h.1] at hp; cases hp⟩

end Hermes.Dispatch

namespace Hermes.LangTag

variable {α : Type} [LT α] [DecidableLT α]

/-- Each search looks only at the 365 days after its start. -/
theorem C11_langtag_search_bounded (dl : Nat → α) (thr zero : α) (frm : Nat) :
    frm < firstDayLongerThan dl thr zero frm ∧ firstDayLongerThan dl thr zero frm ≤ frm + 365 := by
  unfold firstDayLongerThan
  rcases scan_range (dl := dl) (thr := thr) 365 (frm + 1) zero (frm + 1) with h | h
  · rw [h]; omega
  · omega

/-- For EVERY day-length sequence (no periodicity, no latitude restriction)
the repaired `LangTag` returns — the model is a total function whose two searches inspect at most
365 days each — with P1 among the days 1…365, P2 among the 365 days after P1, TAG = P2. -/
theorem C11_langtag_terminates (dl : Nat → α) (thr14 thr16 zero : α) :
    ∃ p1 p2, langTag dl thr14 thr16 zero = (p2, p1, p2) ∧
      1 ≤ p1 ∧ p1 ≤ 365 ∧ p1 < p2 ∧ p2 ≤ p1 + 365 := by
  refine ⟨firstDayLongerThan dl thr14 zero 0, firstDayLongerThan dl thr16 zero (firstDayLongerThan dl thr14 zero 0), rfl, ?_⟩
  have h1 := C11_langtag_search_bounded dl thr14 zero 0
  have h2 := C11_langtag_search_bounded dl thr16 zero (firstDayLongerThan dl thr14 zero 0)
  omega

/-- The repair changes no result: whenever the pinned, unbounded loop finds a day within one year,
the bounded search returns that same day (the first day after `frm` above the threshold). -/
theorem C11_langtag_agrees_with_pinned (dl : Nat → α) (thr zero : α) (frm r : Nat)
    (h : searchPinned dl thr 365 frm = some r) :
    firstDayLongerThan dl thr zero frm = r ∧ frm < r ∧ thr < dl r ∧
      ∀ t, frm < t → t < r → ¬ thr < dl t := by
  obtain ⟨h1, _, h3, h4⟩ := searchPinned_some 365 frm r h
  exact ⟨scan_eq_pinned 365 frm r zero (frm + 1) h, h1, h3, h4⟩

/-- If no day of the window exceeds the threshold the search still returns (a day of the window
that does not exceed it: the longest day seen). -/
theorem C11_langtag_fallback (dl : Nat → α) (thr zero : α) (frm : Nat)
    (h : ∀ t, frm < t → t ≤ frm + 365 → ¬ thr < dl t) :
    ¬ thr < dl (firstDayLongerThan dl thr zero frm) :=
  h _ (C11_langtag_search_bounded dl thr zero frm).1 (C11_langtag_search_bounded dl thr zero frm).2

/-- Characterisation of the pinned loop, the reason for the repair: it terminates iff some later day has a day
length above the threshold. -/
theorem C11_pinned_langtag_terminates_iff (dl : Nat → α) (thr : α) (tag : Nat) :
    (∃ fuel r, searchPinned dl thr fuel tag = some r) ↔ ∃ t, tag < t ∧ thr < dl t := by
  constructor
  · rintro ⟨fuel, r, h⟩
    obtain ⟨h1, _, h3, _⟩ := searchPinned_some fuel tag r h
    exact ⟨r, h1, h3⟩
  · rintro ⟨t, h1, h2⟩
    cases hs : searchPinned dl thr (t - tag) tag with
    | some r => exact ⟨t - tag, r, hs⟩
    | none =>
      exact absurd h2 ((searchPinned_none (t - tag) tag).mp hs t h1 (by omega))

/-- For a day-length function of period `P` (days numbered from 1) the pinned loop terminates iff some day of one
period exceeds the threshold; then `P` iterations suffice (why one year is a complete bound). -/
theorem C11_pinned_langtag_periodic_terminates_iff (dl : Nat → α) (thr : α) (P : Nat) (hP : 0 < P)
    (hper : ∀ t, 1 ≤ t → dl (t + P) = dl t) (tag : Nat) :
    ((∃ fuel r, searchPinned dl thr fuel tag = some r) ↔ ∃ t, 1 ≤ t ∧ t ≤ P ∧ thr < dl t) ∧
    (searchPinned dl thr P tag = none → ∀ fuel, searchPinned dl thr fuel tag = none) := by
  refine ⟨(C11_pinned_langtag_terminates_iff dl thr tag).trans (periodic_exists_iff hP hper tag), ?_⟩
  intro hnone fuel
  rw [searchPinned_none]
  intro t h1 _ hlt
  -- the day length of `t` already occurs among the `P` days after `tag`, which the search with fuel `P` has inspected
  obtain ⟨u, hu1, hu2, hu⟩ := periodic_window hP hper tag t (by omega)
  exact (searchPinned_none P tag).mp hnone u hu1 hu2 (hu ▸ hlt)

set_option maxRecDepth 20000 in
/-- the periodicity hypothesis is satisfiable: the list-given day-length function of the model
driver (one period, days numbered from 1) has it -/
example : ∀ t, 1 ≤ t → periodic dl45 0 (t + 365) = periodic dl45 0 t := by
  intro t h1
  have := periodic_period dl45 0 t h1
  rwa [dl45_length] at this

/-- Regression witness (F6): at the pinned commit, with the day lengths the real
`CalculateDayLenght` yields at latitude 45° (table `dl45`, ⌈100·DL⌉, longest day 15.43 h), no fuel
made `LangTag` return: the second loop waited for a day longer than 16 h for ever. -/
theorem C11_pinned_langtag_nonterminating_lat45_fails_at :
    ∀ fuel, langTagPinned (periodic dl45 0) 1400 1600 fuel = none := by
  intro fuel
  have hb : ∀ x ∈ dl45, ¬ 1600 < x := by decide +kernel
  unfold langTagPinned
  cases h1 : searchPinned (periodic dl45 0) 1400 fuel 0 with
  | none => rfl
  | some p1 =>
    have : searchPinned (periodic dl45 0) 1600 fuel p1 = none := by
      rw [searchPinned_none]; intro t _ _; exact hb _ (periodic_mem dl45 0 t (by decide))
    simp only [this]

/-- The repaired code returns on the table `dl45`: P1 = day 120 (first day longer than 14 h), P2 =
the longest day of the following year of the table. -/
theorem C11_langtag_lat45_returns :
    langTag (periodic dl45 0) 1400 1600 0 = (170, 120, 170) := by
  -- each search runs over one period of the table: evaluate it on the (rotated) list
  have w := map_periodic_range' dl45 0
  rw [dl45_length] at w
  have h1 : firstDayLongerThan (periodic dl45 0) 1400 0 0 = 120 := by
    rw [firstDayLongerThan, scan_eq_scanL, w 0 (by omega)]; decide +kernel
  have h2 : firstDayLongerThan (periodic dl45 0) 1600 0 120 = 170 := by
    rw [firstDayLongerThan, scan_eq_scanL, w 120 (by omega)]; decide +kernel
  simp only [langTag, h1, h2]

end Hermes.LangTag

namespace Hermes.RunLoop

variable {σ ε : Type}

/-- The day loop of run.go:315-773 ends after at most `B + 2`
iterations when `ZEIT` advances by `DT ≥ 1` and every value the body assigns to `g.ENDE` is at most
`B` — whatever else the body does to the state (wrong year bookkeeping included) and whether or
not it returns an error. -/
theorem C11_run_loop_terminates (body : σ → Nat → Nat → Except ε (σ × Nat)) (dt B : Nat) (hdt : 1 ≤ dt)
    (hB : ∀ s z e s' e', body s z e = .ok (s', e') → e' ≤ B)
    (beginn ende : Nat) (s : σ) (he : ende ≤ B) :
    loop body dt (B + 2) beginn ende s ≠ none :=
  loop_terminates body dt B hdt hB (B + 2) beginn ende s he (by omega)

/-! non-vacuity: a three-day run whose body moves ENDE once -/
example : loop (σ := Nat) (ε := String) (fun s z e => .ok (s + z, if z = 11 then 12 else e)) 1 5 10 14 0 = some (.ok 33) := by
  rfl

end Hermes.RunLoop

namespace Hermes.Readers

/-- The schedule readers of input.go (irrigation, tillage, fertiliser, rotation: an outer loop over the
lines and an inner `for ok` loop over the lines of the run's field, both driven by `NextLineInut`)
terminate on every file: every iteration consumes a line, `|lines| + 3` iterations of each loop are
never used up — whatever the lines contain (other fields, blank lines, a missing `end`). -/
theorem C11_schedule_reader_terminates (pkt : Nat) (lines : List Line) :
    readSchedule pkt (lines.length + 3) lines ≠ none := by
  unfold readSchedule
  apply outer_terminates
  have := nextLine_consumes lines
  omega

/-! non-vacuity: two events of field 7 between lines of other fields; the blank line ends the reading
(the outer loop's `valid` is false), so the event after it is not read — the code's behaviour -/
example : readSchedule 7 9 [some ⟨3, 1⟩, some ⟨7, 2⟩, some ⟨7, 3⟩, some ⟨8, 4⟩, none, some ⟨7, 5⟩]
    = some [⟨7, 2⟩, ⟨7, 3⟩] := by decide

end Hermes.Readers
