/-
C10 — Scheduled management actions take effect exactly once, on time, in full (DESIGN §6 C10).
Model: HermesModel/Schedule.lean (readers of the fertiliser / tillage / irrigation files and `dueng` in
input.go after the fixes C10-1 … C10-3; nitro.go:56-69, 245-288; run.go:470-484; water.go:485,513).

Reading of the property:
* "scheduled inside the simulated period" = line of the simulated field dated on or after the start day whose
  execution day is not after the last simulated day;
* slot 0 of the fertiliser array is the residue input of the pre-crop dated BEGINN: applied on BEGINN+1, not a
  scheduled action;
* the code executes fertiliser and tillage on the day after the date (nitro.go:58, 245), the property allows "at most
  one day after"; irrigation on its date.
"At most one day late" fails by design (one fertilisation / tillage per day; DESIGN §7, row D): the negation is proved on
witnesses (`…_fails_at`), the on-time statement kept as `…_on_time_partial` under the decidable hypothesis `spaced`.
-/
import HermesProofs.Schedule
import HermesProofs.Decimals
import Mathlib.Tactic.Ring

namespace Hermes.Schedule

/-- For every file (any order, any number of fields): the slots filled by the fertiliser / tillage
reader, and the irrigation events kept once the start is known, are exactly the lines of the simulated
field dated on or after the start day, in file order. -/
theorem C10_prestart_ignored (beginn : Nat) (ls : List Ev) :
    (read beginn ls).kept = inPeriod beginn ls ∧ irrKept beginn ls = inPeriod beginn ls ∧
    ∀ e ∈ (read beginn ls).kept, e.own = true ∧ beginn ≤ e.date := by
  refine ⟨read_kept beginn ls, irrKept_eq beginn ls, ?_⟩
  intro e he
  rw [read_kept] at he
  exact mem_inPeriod he

/-- Any cursor over an array whose pending cells hold strictly ascending execution days inside or after
the period (followed by an unwritten cell) fires, over the days `b … b+n-1`, exactly the cells whose day
lies in the period: each once, in array order, each on its day — for every length of the schedule and
of the run. -/
theorem C10_applied_exactly_once_in_order (ds good : List Nat) (k b n : Nat) (hb : 0 < b)
    (hdrop : ds.drop k = good) (hasc : good.Pairwise (· < ·)) (hge : ∀ d ∈ good, b ≤ d) :
    runCursor ds k (daysFrom b n) = (good.takeWhile (fun d => decide (d < b + n))).zipIdx k :=
  runCursor_spec ds n k b good [] (by simpa using hdrop) hasc hge (by simpa using hb)

/-- Fertiliser — exactly once, in order, never early, for EVERY file (any number of lines and fields, any
order, any number of events per day, lines before the start): over the days `b … b+n-1` the executions
are slot 0 (pre-crop residues) on `b+1` and then the in-period lines of the field in file order, each once,
on the day after its slot date, exactly those whose execution day is in the period; and no slot date is
before the date of its line. -/
theorem C10_fertiliser_exactly_once_in_order (b n : Nat) (ls : List Ev) (hb : 1 < b) :
    runCursor (fertExecDays (fertDates b ls)) 0 (daysFrom b n) =
      (((b + 1) :: (shiftFrom b ((inPeriod b ls).map (·.date))).map (· + 1)).takeWhile
        (fun d => decide (d < b + n))).zipIdx 0 ∧
    List.Forall₂ (· ≤ ·) ((inPeriod b ls).map (·.date)) (shiftFrom b ((inPeriod b ls).map (·.date))) := by
  refine ⟨?_, shiftFrom_ge _ b⟩
  have hs := shiftFrom_strict ((inPeriod b ls).map (·.date)) b
  rw [fertDates, keptDates_read]
  exact runCursor_next_day (b :: shiftFrom b _) b n hb hs fun d hd => by
    rcases List.mem_cons.mp hd with rfl | hd
    · exact Nat.le_refl _
    · exact Nat.le_of_lt (List.rel_of_pairwise_cons hs hd)

/-- Fertiliser — on time, partial: on well-spaced schedules without an event on the start day the slot date
is the date of the line, one day later for the second of a same-day pair (execution on date+1 / date+2). -/
theorem C10_fertiliser_on_time_partial (b : Nat) (ls : List Ev)
    (_hstart : ∀ d ∈ (inPeriod b ls).map (·.date), b < d)
    (hsp : spaced b false ((inPeriod b ls).map (·.date)) = true) :
    shiftFrom b ((inPeriod b ls).map (·.date)) = expectShift b ((inPeriod b ls).map (·.date)) :=
  shiftFrom_spaced _ b false hsp

/-- Tillage — exactly once, in order, never early, for EVERY file, with fixed harvest dates (no
postponement): the in-period lines are executed in file order, each once, on the day after its slot date. -/
theorem C10_tillage_exactly_once_in_order (b n : Nat) (ls : List Ev) (hb : 1 < b) :
    runTillage (fun _ => false) 0 (tilDates b ls) (daysFrom b n) =
      (((shiftList ((inPeriod b ls).map (·.date))).map (· + 1)).takeWhile
        (fun d => decide (d < b + n))).zipIdx 0 ∧
    List.Forall₂ (· ≤ ·) ((inPeriod b ls).map (·.date)) (shiftList ((inPeriod b ls).map (·.date))) := by
  -- the day before the start serves as predecessor of the first date: the shifted dates stay in the period
  have hs := shiftFrom_strict ((inPeriod b ls).map (·.date)) (b - 1)
  rw [runTillage_eq_runCursor _ _ _ (daysFrom_gt b n 1 hb), tilDates, keptDates_read,
    shiftList_eq _ (b - 1) fun d hd => by have := inPeriod_date_ge b ls d hd; omega]
  exact ⟨runCursor_next_day _ b n hb hs.of_cons fun x hx => by have := List.rel_of_pairwise_cons hs hx; omega,
    shiftFrom_ge _ _⟩

/-- Tillage — on time, partial: on well-spaced schedules the slot date is the date of the line, one day
later for the second of a same-day pair. -/
theorem C10_tillage_on_time_partial (b : Nat) (ls : List Ev) (hb : 0 < b)
    (hsp : spaced 0 false ((inPeriod b ls).map (·.date)) = true) :
    shiftList ((inPeriod b ls).map (·.date)) = expectShift 0 ((inPeriod b ls).map (·.date)) := by
  rw [shiftList_eq _ 0 fun d hd => Nat.lt_of_lt_of_le hb (inPeriod_date_ge b ls d hd)]
  exact shiftFrom_spaced _ 0 false hsp

/-- Irrigation — exactly once, in order, on its date, pre-start lines ignored: for every file whose
in-period lines of the field are strictly ascending (at most one irrigation per day), whatever lies before
the start or belongs to other fields. -/
theorem C10_irrigation_exactly_once_on_its_date (b n : Nat) (ls : List Ev) (hb : 0 < b)
    (hasc : ((inPeriod b ls).map (·.date)).Pairwise (· < ·)) :
    runCursor (irrDates b ls) 0 (daysFrom b n) =
      (((inPeriod b ls).map (·.date)).takeWhile (fun d => decide (d < b + n))).zipIdx 0 := by
  rw [irrDates, irrKept_eq]
  exact C10_applied_exactly_once_in_order _ _ 0 b n hb (by simp) hasc (inPeriod_date_ge b ls)

/-- A fertiliser dated on the start day meets slot 0 (the residues of the pre-crop, dated BEGINN), is moved
behind it and applied two days after its date. -/
theorem C10_fertiliser_on_start_day_two_days_late_fails_at :
    runCursor (fertExecDays (fertDates 100 [⟨true, 100, 0⟩])) 0 (daysFrom 100 30) = [(101, 0), (102, 1)] := by
  decide

/-- An event on the day after a same-day pair is pushed behind the pair and executed two days after its date. -/
theorem C10_fertiliser_after_pair_two_days_late_fails_at :
    runCursor (fertExecDays (fertDates 100 [⟨true, 110, 0⟩, ⟨true, 110, 1⟩, ⟨true, 111, 2⟩])) 0 (daysFrom 100 30)
      = [(101, 0), (111, 1), (112, 2), (113, 3)] := by
  decide

/-- the same for tillage -/
theorem C10_tillage_after_pair_two_days_late_fails_at :
    runTillage (fun _ => false) 0 (tilDates 100 [⟨true, 110, 0⟩, ⟨true, 110, 1⟩, ⟨true, 111, 2⟩]) (daysFrom 100 30)
      = [(111, 0), (112, 1), (113, 2)] := by
  decide

/-- The fertiliser step adds exactly the split to the pools: ΔNFOS₁ = NSAS, ΔNAOS₁ = NLAS,
ΔDSUMM = NDIR, ΔNH4Sum = NH4N. -/
theorem C10_fertiliser_amounts_enter_pools (nfos naos dsumm nh4 : ℚ) (s : FertSplit ℚ) :
    let r := applyFert nfos naos dsumm nh4 s
    r.1 - nfos = s.nsas ∧ r.2.1 - naos = s.nlas ∧ r.2.2.1 - dsumm = s.ndir ∧ r.2.2.2 - nh4 = s.nh4n := by
  simp [applyFert]

/-- The split is the table row × quantity × global factor. -/
theorem C10_fertiliser_amounts_from_table (q f : ℚ) (t : FertRow ℚ) :
    let s := dueng q f t
    s.ndir = q * f * t.ntot * t.ndir * (1 - t.nh4 * t.loss) ∧
    s.nh4n = q * f * t.ntot * t.ndir * t.nh4 * (1 - t.loss) ∧
    s.nsas = (q * f * t.ntot - s.ndir) * t.nfst ∧
    s.nlas = (q * f * t.ntot - s.ndir) * t.nslo :=
  dueng_eq q f t

/-- Nothing of the applied N is lost in the split when the organic shares add up to one. -/
theorem C10_fertiliser_total_conserved (q f : ℚ) (t : FertRow ℚ) (h : t.nfst + t.nslo = 1) :
    (dueng q f t).ndir + (dueng q f t).nsas + (dueng q f t).nlas = q * f * t.ntot := by
  obtain ⟨-, -, e2, e3⟩ := dueng_eq q f t
  rw [e2, e3, add_assoc, ← mul_add, h, mul_one, add_sub_cancel]

/-- The irrigation water (mm/10 = cm) is in the rain of the day when `Evatra` computes the flux through
the soil surface: FLUSS0 = rain + irrigation − evaporation. -/
theorem C10_irrigation_enters_infiltration (regen breg eta : ℚ) :
    (irrigate regen breg).1 = breg / 10 ∧
    (irrigate regen breg).2 = regen + breg / 10 ∧
    fluss0 eta (irrigate regen breg).2 = regen + breg / 10 - eta := by
  refine ⟨?_, ?_, ?_⟩
  · simp only [irrigate, lit10]
  · simp only [irrigate, lit10]
  · simp only [irrigate, fluss0, lit10]; ring

example : spaced 100 false [103, 103, 105, 106, 120, 120] = true := by decide
example : expectShift 100 [103, 103, 105, 106, 120, 120] = [103, 104, 105, 106, 120, 121] := by decide
example : fertDates 100 [⟨true, 90, 0⟩, ⟨false, 150, 1⟩, ⟨true, 103, 2⟩, ⟨true, 103, 3⟩] = [100, 103, 104, 0] := by decide
example : fertDates 100 [⟨true, 110, 0⟩, ⟨true, 110, 1⟩, ⟨true, 111, 2⟩, ⟨true, 111, 3⟩, ⟨true, 120, 4⟩]
    = [100, 110, 111, 112, 113, 120, 0] := by decide
example : tilDates 100 [⟨true, 99, 0⟩] = [0] := by decide
example : runCursor (fertExecDays [100, 103, 104, 0]) 0 (daysFrom 100 10) = [(101, 0), (104, 1), (105, 2)] := by decide
example : irrDates 100 [⟨true, 95, 0⟩, ⟨false, 7, 1⟩, ⟨true, 105, 2⟩] = [105] := by decide
example : runCursor (irrDates 100 [⟨true, 95, 0⟩, ⟨true, 101, 1⟩, ⟨true, 105, 2⟩]) 0 (daysFrom 100 10) = [(101, 0), (105, 1)] := by decide
example : (dueng (100 : ℚ) 1 ⟨0.6, 0.15, 0.2, 0.8, 1, 0.4⟩).ndir = 5.4 := by decide +kernel

end Hermes.Schedule
