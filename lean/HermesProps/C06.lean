/-
C06 — Soil water content stays within physical bounds; state stays finite.
Model: HermesModel/Water.lean (one call of `Water`, hermes/water.go:805-995), iterated over the
sub-steps of a day as in C01.  Exact-arithmetic statements over ℚ for every number of layers.
The day-level lower bound is partial (`C06_lower_bound_day_partial`, `C06_lower_bound_day_fails_at`).
Finiteness of IEEE values is outside ℚ: it is covered by `C06_no_zero_denominator` (no division by
zero under the ordering 0 < WMIN < WNOR, W) and otherwise observed by the search stage.
-/
import HermesProofs.WaterBounds
import HermesProofs.Evatra
namespace Hermes.Water

/-- After every call of the water routine the water content of every layer is at
most its field capacity (pore volume below the groundwater table) plus the capillary-rise
increment the call added to that layer — whatever the state before (single top-down overflow
pass, then capillary rise). -/
theorem C06_upper_bound_step (i : In ℚ) (hdz : 0 < i.dz) (j : ℕ) (x w : ℚ)
    (hx : (step i).wg1[j]? = some x) (hw : i.w[j]? = some w) :
    x ≤ w + capInc i j / i.dz := by
  obtain ⟨_, w', p, _, hw', hle, _, rfl⟩ := wg1_get i hdz j x hx
  cases hw.symm.trans hw'
  rw [add_div]
  exact add_le_add_left ((div_le_iff₀ hdz).mpr hle) _

/-- On an evaporation day every layer the cascade touches ends the surface
phase at or above a third of its wilting point; the other layers are untouched. No hypothesis on
the state (the deficit is passed down instead). -/
theorem C06_lower_bound_evap (i : In ℚ) (wa0 : List ℚ) (j : ℕ) (y : ℚ) (hf : i.fluss0 < 0)
    (h : (phaseSurface i wa0).wa1[j]? = some y) :
    ∃ x0 m, wa0[j]? = some x0 ∧ i.wmin[j]? = some m ∧ (m / 3 * i.dz ≤ y ∨ y = x0) := by
  rw [phaseSurface_wa1, if_neg (not_lt.mpr hf.le), if_pos hf] at h
  obtain ⟨t, ht, hor⟩ := forall₂_getElem? (evap_forall₂ i.dz i.wdt _ _ none) h
  obtain ⟨ha, hb, _⟩ := (zip3_getElem? _ _ _ j t).mp ht
  exact ⟨t.1, t.2.1, ha, hb, hor⟩

/-- Side conditions of the lower bound: positive layer thickness, sub-step length in [0,1], drain
fraction in [0,1], capillary table non-negative, a third of the wilting point not above field
capacity, wilting point non-negative. (All follow from C15's ordering 0 < WMIN < W.) -/
structure Valid (i : In ℚ) : Prop where
  dz : 0 < i.dz
  wdt0 : 0 ≤ i.wdt
  wdt1 : i.wdt ≤ 1
  df0 : 0 ≤ i.draifak
  df1 : i.draifak ≤ 1
  caps : ∀ c ∈ i.caps, 0 ≤ c
  cap : ∀ (j : ℕ) (w m : ℚ), i.w[j]? = some w → i.wmin[j]? = some m → m / 3 ≤ w
  wmin : ∀ m ∈ i.wmin, 0 ≤ m

theorem surface_get (i : In ℚ) (hv : Valid i) (wa0 : List ℚ) (j : ℕ) (y : ℚ) (h : (phaseSurface i wa0).wa1[j]? = some y) :
    ∃ x0, wa0[j]? = some x0 ∧
      ((∃ w, i.w[j]? = some w ∧ y = w * i.dz) ∨ (∃ m, i.wmin[j]? = some m ∧ m / 3 * i.dz ≤ y) ∨ x0 ≤ y) := by
  by_cases h2 : i.fluss0 < 0
  · obtain ⟨x0, m, ha, hb, hor⟩ := C06_lower_bound_evap i wa0 j y h2 h
    exact ⟨x0, ha, Or.inr (hor.imp (fun e => ⟨m, hb, e⟩) ge_of_eq)⟩
  rw [phaseSurface_wa1, if_neg h2] at h
  split_ifs at h with h1
  · obtain ⟨t, ht, hor⟩ :=
      forall₂_getElem? (infil_forall₂ i.dz i.draidep i.draifak hv.df1 _ _ 1 (mul_nonneg h1.le hv.wdt0)) h
    obtain ⟨ha, hb⟩ := List.getElem?_zip_eq_some.mp ht
    exact ⟨t.1, ha, hor.imp (fun e => ⟨t.2, hb, e⟩) Or.inr⟩
  · exact ⟨y, h, Or.inr (Or.inr (le_refl _))⟩

/-- If after the uptake of this sub-step no layer is below a third of its wilting
point, then none is after the call. -/
theorem C06_lower_bound_step (i : In ℚ) (hv : Valid i)
    (h0 : ∀ (j : ℕ) (x m : ℚ), (phaseUptake i).2[j]? = some x → i.wmin[j]? = some m → m / 3 * i.dz ≤ x)
    (j : ℕ) (x m : ℚ) (hx : (step i).wg1[j]? = some x) (hm : i.wmin[j]? = some m) : m / 3 ≤ x := by
  obtain ⟨y, w, p, hy, hw, _, hor, rfl⟩ := wg1_get i hv.dz j x hx
  have hcap := mul_le_mul_of_nonneg_right (hv.cap j w m hw hm) hv.dz.le
  have hlow : m / 3 * i.dz ≤ p := by
    refine hor.elim (fun e => e ▸ hcap) fun hyp => le_trans ?_ hyp
    obtain ⟨x0, hx0, hs⟩ := surface_get i hv _ j y hy
    rcases hs with ⟨w2, hw2, rfl⟩ | ⟨m2, hm2, hle⟩ | hle
    · cases hw.symm.trans hw2
      exact hcap
    · cases hm.symm.trans hm2
      exact hle
    · exact (h0 j x0 m hx0 hm).trans hle
  rw [le_div_iff₀ hv.dz]
  exact hlow.trans (le_add_of_nonneg_right (capInc_nonneg i j hv.dz.le hv.wdt0 hv.caps))

/-- The uptake limit of the first sub-step (against the day-start water)
guarantees the premise of `C06_lower_bound_step`: if the day starts with every layer at or above
a third of its wilting point, the first call of the day ends so — hence every day that runs in one
sub-step (the vast majority) keeps the lower bound. -/
theorem C06_lower_bound_first_step (i : In ℚ) (hv : Valid i) (hfirst : i.first = true)
    (hstart : ∀ (j : ℕ) (g m : ℚ), i.wg[j]? = some g → i.wmin[j]? = some m → m / 3 ≤ g)
    (j : ℕ) (x m : ℚ) (hx : (step i).wg1[j]? = some x) (hm : i.wmin[j]? = some m) : m / 3 ≤ x := by
  apply C06_lower_bound_step i hv _ j x m hx hm
  intro j x m hx hm
  rw [phaseUptake_snd, phaseUptake_fst, if_pos hfirst, water0_zipWith, List.getElem?_zipWith_eq_some] at hx
  obtain ⟨g, t, hg, ht, rfl⟩ := hx
  obtain ⟨t0, g', m', _, hg', hm', rfl⟩ := limitTp_get _ _ _ _ j t ht
  cases hg.symm.trans hg'
  cases hm.symm.trans hm'
  exact limTp_keeps t0 hv.dz.le hv.wdt0 hv.wdt1 (hv.wmin m (List.mem_of_getElem? hm)) (hstart j g m hg hm)

/-- water contents after the sub-steps of a day (each call starts from the result of the previous one); the same
function as `dayFinal` of HermesProps/C01.lean -/
noncomputable def dayEnd : List (In ℚ) → List ℚ → List ℚ
  | [], wg => wg
  | i :: rest, wg => dayEnd rest (step { i with wg := wg }).wg1

/-- The hypothesis the proof forces on the later sub-steps of a day: the uptake of the sub-step
(TP·wdt, limited only once per day against the day-start water, water.go:823-833) does not take
any layer below a third of its wilting point, evaluated on the states the day actually runs through. -/
def UptakeOk : List (In ℚ) → List ℚ → Prop
  | [], _ => True
  | i :: rest, wg =>
    (∀ (j : ℕ) (x m : ℚ), (phaseUptake { i with wg := wg }).2[j]? = some x → i.wmin[j]? = some m → m / 3 * i.dz ≤ x) ∧
      UptakeOk rest (step { i with wg := wg }).wg1

theorem Valid.withWg {i : In ℚ} (h : Valid i) (wg : List ℚ) : Valid { i with wg := wg } :=
  ⟨h.dz, h.wdt0, h.wdt1, h.df0, h.df1, h.caps, h.cap, h.wmin⟩

theorem lower_bound_rest (wm : List ℚ) (subs : List (In ℚ)) (wg : List ℚ)
    (hall : ∀ i ∈ subs, Valid i ∧ i.wmin = wm) (hok : UptakeOk subs wg)
    (hs : ∀ (j : ℕ) (g m : ℚ), wg[j]? = some g → wm[j]? = some m → m / 3 ≤ g) :
    ∀ (j : ℕ) (x m : ℚ), (dayEnd subs wg)[j]? = some x → wm[j]? = some m → m / 3 ≤ x := by
  fun_induction dayEnd subs wg with
  | case1 => exact hs
  | case2 i rest wg ih =>
    obtain ⟨hv, hwm⟩ := hall i (by simp)
    refine ih (fun k hk => hall k (List.mem_cons_of_mem _ hk)) hok.2 fun j' g' m' hg' hm' => ?_
    exact C06_lower_bound_step { i with wg := wg } (hv.withWg wg) hok.1 j' g' m' hg' (by simpa [hwm] using hm')

/-- **Day-level lower bound — partial.** If the day starts with every layer at or above a third
of its wilting point, it ends so, for any number of sub-steps, provided the later sub-steps
satisfy `UptakeOk` (the first one always does: `C06_lower_bound_first_step`). What is missing:
the code applies the uptake limit only in the first sub-step, against the day-start water, so
`UptakeOk` can fail when a layer loses water between sub-steps (overflow pass of a layer that
started above field capacity) — see `C06_lower_bound_day_fails_at`. -/
theorem C06_lower_bound_day_partial (i1 : In ℚ) (rest : List (In ℚ)) (wg : List ℚ)
    (h1 : Valid i1) (hfirst : i1.first = true) (hall : ∀ i ∈ rest, Valid i ∧ i.wmin = i1.wmin)
    (hok : UptakeOk rest (step { i1 with wg := wg }).wg1)
    (hstart : ∀ (j : ℕ) (g m : ℚ), wg[j]? = some g → i1.wmin[j]? = some m → m / 3 ≤ g) :
    ∀ (j : ℕ) (x m : ℚ), (dayEnd (i1 :: rest) wg)[j]? = some x → i1.wmin[j]? = some m → m / 3 ≤ x := by
  intro j x m hx hm
  simp only [dayEnd] at hx
  apply lower_bound_rest i1.wmin rest _ hall hok _ j x m hx hm
  intro j' g' m' hg' hm'
  exact C06_lower_bound_first_step { i1 with wg := wg } (h1.withWg wg) hfirst hstart j' g' m' hg' hm'

/-- **Upper bound at day end**: the last sub-step's bound (field capacity + the capillary
increment of that call, which is at most the day's increment when the table is non-negative). -/
theorem C06_upper_bound_day (i : In ℚ) (before : List (In ℚ)) (wg : List ℚ) (hdz : 0 < i.dz) (j : ℕ) (x w : ℚ)
    (hx : (dayEnd (before ++ [i]) wg)[j]? = some x) (hw : i.w[j]? = some w) :
    ∃ wg', x ≤ w + capInc { i with wg := wg' } j / i.dz := by
  induction before generalizing wg with
  | nil =>
    simp only [List.nil_append, dayEnd] at hx
    exact ⟨wg, C06_upper_bound_step { i with wg := wg } hdz j x w hx hw⟩
  | cons b bs ih =>
    simp only [List.cons_append, dayEnd] at hx
    exact ih _ hx

/-- one sub-step of the witness day: one stony layer (field capacity 5 %, wilting point 3 %) that
starts at 10 % (left above field capacity by a fallen groundwater table), uptake 6.6 mm/d, no
flux through the surface reaches it, no groundwater influence. -/
noncomputable def wStep (first : Bool) : In ℚ :=
  { dz := 10, wdt := 1 / 3, first := first, fluss0 := 0, wg := [], tp := [0.66], w := [0.05], wmin := [0.03],
    ev := [0], evTail := 0, nfk := [1], caps := List.replicate 21 0, grw := 99, draidep := 0, draifak := 0,
    outn := 1, gwauf := 0, q0prev := 0 }

theorem wStep_valid (b : Bool) : Valid (wStep b) := by
  cases b <;> refine ⟨?_, ?_, ?_, ?_, ?_, ?_, forall_getElem?_of_zip ?_, ?_⟩ <;> decide +kernel

/-- **Day-level lower bound fails** on the current code (finding F20): the layer starts the day at 10 % — above
a third of its wilting point (1 %) — and ends the third sub-step at 0.6 %, below it: the uptake
limit of the first sub-step admits 6.6 mm (7 mm are available above the wilting point), the
overflow pass of the same call cuts the layer to field capacity (5 mm of water), and the two
later sub-steps take their 2.2 mm each without any limit. -/
theorem C06_lower_bound_day_fails_at :
    (∀ b, Valid (wStep b)) ∧ (0.03 : ℚ) / 3 ≤ 0.1 ∧
    dayEnd [wStep true, wStep false, wStep false] [0.1] = [0.006] ∧ (0.006 : ℚ) < 0.03 / 3 :=
  ⟨wStep_valid, by decide +kernel, by decide +kernel, by decide +kernel⟩

/-- **No zero denominator.** Under the ordering 0 < WMIN < WNOR and WMIN < W (C15) with a positive
layer thickness, every unguarded division of the water and evapotranspiration kernels has a
non-zero denominator: the layer thickness (`/DZ`), the evaporable range of the top layer
(`W₀ − WMIN₀/3`), the usable range of every layer (`WNOR − WMIN`); the remaining divisions
(`/SUMVAR`, `/WEFF`, `/WEFFREST`, `/ETCP`, `/TRAMAX`, `/LUKRIT`) are guarded by a positivity test in
the code, and a positive share implies a positive total activity. -/
theorem C06_no_zero_denominator (dz w0 wmin0 : ℚ) (hdz : 0 < dz) (h0 : 0 < wmin0) (hw : wmin0 < w0) :
    dz ≠ 0 ∧ w0 - wmin0 / 3 ≠ 0 ∧
    (∀ wnor wmin : ℚ, wmin < wnor → wnor - wmin ≠ 0) ∧
    (∀ (wurz : ℕ) (lays : List (Evatra.Lay ℚ)), Evatra.ActOk lays →
      ∀ l ∈ lays.take wurz, 0 < l.wueff * l.wudich → 0 < Evatra.weffSum wurz lays) := by
  refine ⟨hdz.ne', by linarith, fun a b h => by linarith, ?_⟩
  intro wurz lays hact l hl hpos
  rw [Evatra.weffSum_eq]
  exact lt_of_lt_of_le hpos (List.single_le_sum (Evatra.wq_nonneg fun y hy => hact y (List.mem_of_mem_take hy))
    (Evatra.wq l) (List.mem_map.mpr ⟨l, hl, rfl⟩))

/-- a two-layer evaporation call satisfying `Valid` and the premise of `C06_lower_bound_first_step` -/
noncomputable def exIn : In ℚ :=
  { dz := 10, wdt := 1, first := true, fluss0 := -0.3, wg := [0.12, 0.25], tp := [0.05, 0.02], w := [0.3, 0.3],
    wmin := [0.1, 0.12], ev := [0.25, 0.05], evTail := 0, nfk := [0.1, 0.7], caps := List.replicate 21 0.1, grw := 4,
    draidep := 0, draifak := 0, outn := 2, gwauf := 0, q0prev := 0 }

example : Valid exIn ∧ exIn.first = true ∧
    (∀ (j : ℕ) (g m : ℚ), exIn.wg[j]? = some g → exIn.wmin[j]? = some m → m / 3 ≤ g) := by
  refine ⟨⟨?_, ?_, ?_, ?_, ?_, ?_, forall_getElem?_of_zip ?_, ?_⟩, rfl, forall_getElem?_of_zip ?_⟩ <;> decide +kernel

/-- `UptakeOk` is satisfiable on a non-trivial second sub-step (uptake small against the store) -/
example : UptakeOk [{ exIn with first := false, tp := [0.01, 0.01] }] [0.12, 0.25] :=
  ⟨forall_getElem?_of_zip (by decide +kernel), trivial⟩

end Hermes.Water
