/-
C07 at harvest — what the harvest branch of `Nitro` (nitro.go:293-570), `resid` (865-950) and `pinit` (953-964)
do to the crop N, the organic pools NFOS / NAOS and the crop state.  Model: HermesModel/Harvest.lean (tied to
the Go code by the correspondence kernels `harvest.resid`, `harvest.pinit`, `harvest.step`, the last one driven
through the real `hermes.Nitro` on generated states and on the states of every harvest day of whole runs).
Exact-arithmetic statements over ℚ.

Reading.  The code never computes "N exported with the yield"; the crop record carries `Nuptake` (crop N at
harvest, incl. fixation), `Nagb` (above-ground part) and `Nresid` (above-ground residues).  The N that leaves the
field is therefore `Nagb − Nresid`; root N is `Nuptake − Nagb`.  The identities below are stated with these
record numbers and the jump of Σ(NFOS + NAOS).
-/
import HermesProofs.Harvest
import HermesModel.Rotation
namespace Hermes.Harvest

/-- jump of Σ(NFOS + NAOS) over the harvest branch -/
def poolGain (i : In ℚ) : ℚ := ((step i).nfos.sum + (step i).naos.sum) - (i.nfos.sum + i.naos.sum)

/-- **`resid` splits what it returns without remainder, and never returns a negative amount** (every state, every
table row): NSA + NLA = NRESID, NUSA + NULA = the root residues, NDI = 0, and the two clamps make both amounts ≥ 0. -/
theorem C07_resid_split (i : ResidIn ℚ) :
    (resid i).nsa + (resid i).nla = (resid i).nresid ∧ (resid i).nusa + (resid i).nula = (resid i).dgu ∧
    (resid i).ndi = 0 ∧ 0 ≤ (resid i).nresid ∧ 0 ≤ (resid i).dgu := by
  obtain ⟨a, b, c, d, e⟩ := resid_split i
  exact ⟨a, b, c, d, e⟩

/-- **Residues of a non-permanent crop in closed form** (`0 ≤ JN ≤ 1`, row of CROP_N.TXT in range): all root N
`PESUM·NWURA` stays; of the above-ground N the by-product share `KOSTRO·NKOPP/(NERNT + KOSTRO·NKOPP)` is residue,
and the fraction `1 − JN` of it stays.  What leaves the field, `Nagb − Nresid`, is the N of the harvested product
plus the removed residues, and is ≥ 0. -/
theorem C07_resid_annual_closed_form (i : ResidIn ℚ) (hk : i.dauerkult = false) (r : RowRange i.pesum i.row)
    (hj0 : 0 ≤ i.jn) (hj1 : i.jn ≤ 1) :
    (resid i).dgu = i.pesum * i.row.nwura ∧ (resid i).nagb + (resid i).dgu = i.pesum ∧
    (resid i).nagb - (resid i).nresid
      = i.pesum * (1 - i.row.nwura) * (i.row.nernt / (i.row.nernt + i.row.kostro * i.row.nkopp))
        + i.jn * (i.pesum * (1 - i.row.nwura) * (i.row.kostro * i.row.nkopp / (i.row.nernt + i.row.kostro * i.row.nkopp))) ∧
    0 ≤ (resid i).nagb - (resid i).nresid := by
  obtain ⟨hu, hm⟩ := resid_annual i hk r hj1
  have hd : i.row.nernt + i.row.kostro * i.row.nkopp ≠ 0 := ne_of_gt r.den
  -- product and by-product share the above-ground N
  have hshare : i.row.nernt / (i.row.nernt + i.row.kostro * i.row.nkopp)
      = 1 - i.row.kostro * i.row.nkopp / (i.row.nernt + i.row.kostro * i.row.nkopp) := by
    rw [eq_sub_iff_add_eq, ← add_div, div_self hd]
  -- `a ∧ b` from `a` and `a → b`: the closed form stands once, in the goal, and its sign is read off it
  refine ⟨hu, by rw [hu, resid_nagb]; ring, (and_iff_left_of_imp fun key => ?_).mpr ?_⟩
  · rw [key]
    have h2 : 0 ≤ i.pesum * (1 - i.row.nwura) := mul_nonneg r.p0 (sub_nonneg.2 r.w1)
    exact add_nonneg (mul_nonneg h2 (div_nonneg r.ne0 r.den.le))
      (mul_nonneg hj0 (mul_nonneg h2 (div_nonneg (mul_nonneg r.ks0 r.nk0) r.den.le)))
  · rw [hm, annualDgm_closed i.jn i.pesum i.row r.den, resid_nagb, hshare]; ring

/-- the winter wheat row (`WW`) of the shipped table: with it and crop N 180 the hypotheses `RowRange` are satisfiable -/
def wwRow : CropNRow ℚ := { kostro := 1, nernt := 1.9, nkopp := 0.5, nwura := 0.1, nfast := 0 }
example : RowRange (180 : ℚ) wwRow := by
  constructor <;> decide +kernel

/-- **The soil never receives more N than the crop holds** (non-permanent crop, `0 ≤ JN ≤ 1` or `JN = 2`): residues
above ground ≤ above-ground N, residues in total ≤ crop N; with `JN = 2` (whole plant stays) they are all of it. -/
theorem C07_resid_le_crop_N (i : ResidIn ℚ) (hk : i.dauerkult = false) (r : RowRange i.pesum i.row)
    (hj : (0 ≤ i.jn ∧ i.jn ≤ 1) ∨ i.jn = 2) :
    (resid i).nresid ≤ (resid i).nagb ∧ (resid i).nresid + (resid i).dgu ≤ i.pesum ∧
    (i.jn = 2 → (resid i).nresid + (resid i).dgu = i.pesum) := by
  rcases hj with ⟨hj0, hj1⟩ | hj2
  · obtain ⟨hu, hs, _, hnn⟩ := C07_resid_annual_closed_form i hk r hj0 hj1
    refine ⟨by linarith, by linarith, ?_⟩
    intro h; linarith
  · obtain ⟨hu, hm⟩ := resid_whole_plant i hj2 r.p0 r.w0 r.w1
    rw [hm, hu, resid_nagb]
    exact ⟨le_refl _, by linarith, fun _ => by ring⟩

/-- **Every row of the shipped CROP_N.TXT** (regenerated from examples/parameter on every run, read with the column
slices of `resid`) **lies in the ranges these theorems assume**: root share and fast share in [0,1], contents ≥ 0,
`NERNT + KOSTRO·NKOPP > 0`. -/
theorem C07_shipped_crop_n_rows_in_range (r : List Nat × List Nat) (hr : r ∈ Hermes.Generated.cropNRows) (p : ℚ) (hp : 0 ≤ p) :
    RowRange p (rowOfHundredths r.2) ∧ 0 ≤ (rowOfHundredths r.2 : CropNRow ℚ).nfast ∧ (rowOfHundredths r.2 : CropNRow ℚ).nfast ≤ 1 := by
  -- the table is closed: every row is evaluated
  have h : ∀ r ∈ Hermes.Generated.cropNRows, (fun t : CropNRow ℚ => 0 ≤ t.nwura ∧ t.nwura ≤ 1 ∧ 0 ≤ t.nernt ∧ 0 ≤ t.kostro ∧
      0 ≤ t.nkopp ∧ 0 < t.nernt + t.kostro * t.nkopp ∧ 0 ≤ t.nfast ∧ t.nfast ≤ 1) (rowOfHundredths r.2) := by
    decide +kernel
  obtain ⟨w0, w1, ne0, ks0, nk0, den, f0, f1⟩ := h r hr
  exact ⟨⟨hp, w0, w1, ne0, ks0, nk0, den⟩, f0, f1⟩

/-- **Σ(NFOS + NAOS) grows at harvest by exactly the above-ground residue N of the record plus the root residues
times the root shares of the rooted layers** (plus the two organic parts NSAS + NLAS of the dressing applied in the
skipped-crop branch of automatic sowing) — every state, every crop, every `JN`. -/
theorem C07_harvest_pool_gain (i : In ℚ) (A : Arrays i) :
    poolGain i = (step i).res.nresid + (step i).res.dgu * rootShare i + (if skipOf i then i.nsas + i.nlas else 0) := by
  obtain ⟨a, b, _, _, _⟩ := residOf_split i
  unfold poolGain rootShare
  rw [step_nfos, step_naos, step_res]
  unfold nfosAfterResidues naosAfterResidues
  rw [pool_sum _ _ _ _ _ _ A.nfos_ne_nil (by rw [A.wuant, A.nfos]; norm_num),
    pool_sum _ _ _ _ _ _ A.naos_ne_nil (by rw [A.wuant, A.naos]; norm_num), ← a, ← b]
  split <;> ring

/-- **Every layer holds at least what it held before; layers below the rooted ones (and below the top layer) are
not touched.** -/
theorem C07_harvest_layers_only_gain (i : In ℚ) (hf0 : 0 ≤ i.r.row.nfast) (hf1 : i.r.row.nfast ≤ 1)
    (hw : ∀ w ∈ i.wuant, 0 ≤ w) (hs : 0 ≤ i.nsas) (hl : 0 ≤ i.nlas) (z : ℕ) :
    i.nfos.getD z 0 ≤ (step i).nfos.getD z 0 ∧ i.naos.getD z 0 ≤ (step i).naos.getD z 0 ∧
    (i.crop.wurz ≤ z + 1 → (step i).nfos.getD (z + 1) 0 = i.nfos.getD (z + 1) 0 ∧
                            (step i).naos.getD (z + 1) 0 = i.naos.getD (z + 1) 0) := by
  obtain ⟨h1, h2, h3, h4⟩ := residOf_parts_nonneg i hf0 hf1
  rw [step_nfos, step_naos]
  exact ⟨pool_getD_le (ite_of_both (0 ≤ ·) _ hs (le_refl _)) h1 h3 _ _ _ hw z,
    pool_getD_le (ite_of_both (0 ≤ ·) _ hl (le_refl _)) h2 h4 _ _ _ hw z,
    fun hz => ⟨pool_getD_below _ _ _ _ _ _ z hz, pool_getD_below _ _ _ _ _ _ z hz⟩⟩

/-- **No pool becomes negative at harvest**: with a fast share in [0,1] and root shares ≥ 0 every cell of NFOS and
NAOS stays ≥ 0 — whatever the crop N, `JN`, the permanent-crop flag and the other table values are (the two clamps
of `resid`). -/
theorem C07_harvest_pools_nonneg (i : In ℚ) (hf0 : 0 ≤ i.r.row.nfast) (hf1 : i.r.row.nfast ≤ 1)
    (hw : ∀ w ∈ i.wuant, 0 ≤ w) (hs : 0 ≤ i.nsas) (hl : 0 ≤ i.nlas)
    (hnf : ∀ y ∈ i.nfos, 0 ≤ y) (hna : ∀ y ∈ i.naos, 0 ≤ y) :
    (∀ y ∈ (step i).nfos, 0 ≤ y) ∧ (∀ y ∈ (step i).naos, 0 ≤ y) := by
  have key := C07_harvest_layers_only_gain i hf0 hf1 hw hs hl
  exact ⟨all_of_getD fun z => le_trans (getD_of_all hnf le_rfl z) (key z).1,
    all_of_getD fun z => le_trans (getD_of_all hna le_rfl z) (key z).2.1⟩

/-- the harvested entry is a regular one: not the pre-crop of the start date, no skipped-crop branch -/
def Regular (i : In ℚ) : Prop := i.first = false ∧ skipOf i = false

/-- **The identity the code satisfies at the harvest of a non-permanent crop** (`0 ≤ JN ≤ 1`, table row in range):
the crop N of the record equals  the N that leaves the field (`Nagb − Nresid` ≥ 0)  +  the jump of Σ(NFOS + NAOS)
+  the residual `(Nuptake − Nagb)·(1 − Σ WUANT[0..WURZ))` — the part of the root N for which the root shares
of the rooted layers do not account. -/
theorem C07_harvest_crop_N_balance (i : In ℚ) (A : Arrays i) (reg : Regular i) (hk : i.r.dauerkult = false)
    (r : RowRange i.r.pesum i.r.row) (hj0 : 0 ≤ i.r.jn) (hj1 : i.r.jn ≤ 1) :
    (step i).recv.nuptake
      = ((step i).recv.nagb - (step i).recv.nresid) + poolGain i
        + ((step i).recv.nuptake - (step i).recv.nagb) * (1 - rootShare i) ∧
    0 ≤ (step i).recv.nagb - (step i).recv.nresid := by
  obtain ⟨hu, hs, _, hnn⟩ := C07_resid_annual_closed_form i.r hk r hj0 hj1
  obtain ⟨e1, e2, e3⟩ := step_recv_noskip i reg.2
  rw [C07_harvest_pool_gain i A, e1, e2, e3, step_res, residOf_regular reg.1]
  simp only [reg.2, Bool.false_eq_true, if_false]
  refine ⟨?_, hnn⟩
  rw [← hs]; ring

/-- **N conservation at harvest (partial)**: when the root shares of the rooted layers sum to one, crop N =
N leaving the field + N added to the organic pools. The hypothesis on the shares cannot be dropped
(`C07_harvest_root_N_lost_fails_at`) and does not hold for the shares `PhytoOut` computes
(Σ = 1 − exp(−Qrez·WURZ·DZ) < 1). -/
theorem C07_harvest_conservation_partial (i : In ℚ) (A : Arrays i) (reg : Regular i) (hk : i.r.dauerkult = false)
    (r : RowRange i.r.pesum i.r.row) (hj0 : 0 ≤ i.r.jn) (hj1 : i.r.jn ≤ 1) (hsum : rootShare i = 1) :
    (step i).recv.nuptake = ((step i).recv.nagb - (step i).recv.nresid) + poolGain i := by
  have h := (C07_harvest_crop_N_balance i A reg hk r hj0 hj1).1
  rw [hsum] at h
  linarith

/-- **`JN = 2` (whole plant stays)**: the pools gain all of the crop N except the root-share gap. -/
theorem C07_harvest_whole_plant (i : In ℚ) (A : Arrays i) (reg : Regular i) (hj : i.r.jn = 2)
    (hp : 0 ≤ i.r.pesum) (w0 : 0 ≤ i.r.row.nwura) (w1 : i.r.row.nwura ≤ 1) :
    poolGain i = i.r.pesum - i.r.pesum * i.r.row.nwura * (1 - rootShare i) := by
  obtain ⟨hu, hm⟩ := resid_whole_plant i.r hj hp w0 w1
  rw [C07_harvest_pool_gain i A, step_res, residOf_regular reg.1]
  simp only [reg.2, Bool.false_eq_true, if_false]
  rw [hm, hu]; ring

/-- a harvest of winter wheat: crop N 200, all residues removed, one rooted layer with root share 0.9 -/
def lossWitness : In ℚ :=
  { first := false,
    r := { dauerkult := false, isAA := false, jn := 1, pesum := 200, obmas := 9000, gehob := 0.02, row := wwRow },
    nagbOld := 0, wuant := 0.9 :: List.replicate 19 0, nfos := List.replicate 21 10, naos := List.replicate 21 100,
    dsumm := 0, yorgan := 4, yifak := 0.85, wugeh := 0.01,
    crop := { pesum := 200, obmas := 9000, wumas := 2000, lai := 3, wurz := 1, worg := [2000, 1000, 3000, 5000, 0], standing := true },
    naltos := 3000, nakt := 0.13, domeng1 := 0, windowPassed := false, automan := false, orgH := false,
    nsas := 0, nlas := 0, ndir := 0, nextPerennialCode := false }

example : Arrays lossWitness ∧ Regular lossWitness ∧ RowRange lossWitness.r.pesum lossWitness.r.row := by
  refine ⟨?_, ⟨rfl, rfl⟩, ?_⟩ <;> constructor <;> decide +kernel

/-- the hypothesis `rootShare = 1` of `C07_harvest_conservation_partial` is satisfiable -/
example : rootShare { lossWitness with wuant := 1 :: List.replicate 19 0 } = 1 := by
  decide +kernel

/-- **N is lost at harvest when the root shares do not sum to one**: here the crop holds 200 kg N/ha, 180 leave
the field, 20 are root N, the pools gain 18 — 2 kg N/ha reach neither a pool nor the record, and the crop N is
reset to 0. (Replayed on the real `Nitro`: signature `harvest:root-residue-N-lost:root-shares-sum-below-1`.) -/
theorem C07_harvest_root_N_lost_fails_at :
    (step lossWitness).recv.nuptake = 200 ∧ (step lossWitness).recv.nagb - (step lossWitness).recv.nresid = 180 ∧
    poolGain lossWitness = 18 ∧ (step lossWitness).crop.pesum = 0 ∧
    ¬ ((step lossWitness).recv.nuptake
        = ((step lossWitness).recv.nagb - (step lossWitness).recv.nresid) + poolGain lossWitness) := by
  decide +kernel

/-- **After the harvest of a non-permanent crop the crop state is cleared**: crop N, above-ground and root mass,
root depth, every organ mass and the development stage — the next crop's uptake starts from 0. -/
theorem C07_harvest_resets_annual (i : In ℚ) (hk : i.r.dauerkult = false) :
    (step i).crop.pesum = 0 ∧ (step i).crop.obmas = 0 ∧ (step i).crop.wumas = 0 ∧ (step i).crop.wurz = 0 ∧
    (step i).crop.standing = false ∧ (∀ x ∈ (step i).crop.worg, x = 0) := by
  rw [step_crop, hk]
  simp only [afterCut, pinit, Bool.false_and, Bool.false_eq_true, if_false]
  unfold finalReset
  split <;> simp

/-- **The crop state is also cleared whenever the next rotation entry is not grass / alfalfa**, after a permanent crop
too; the leaf area is cleared as well. -/
theorem C07_harvest_resets_before_other_crop (i : In ℚ) (hn : i.nextPerennialCode = false) :
    (step i).crop.pesum = 0 ∧ (step i).crop.obmas = 0 ∧ (step i).crop.wumas = 0 ∧ (step i).crop.wurz = 0 ∧
    (step i).crop.lai = 0 ∧ (step i).crop.standing = false := by
  rw [step_crop, hn]
  simp [finalReset]

/-- **A cut permanent crop followed by grass / alfalfa keeps crop N**: the part `1 − YIFAK` of the N above the
root N, but at least the floor `820·GEHOB + WORG[0]·WUGEH`. -/
theorem C07_harvest_perennial_keeps (i : In ℚ) (hk : i.r.dauerkult = true) (hn : i.nextPerennialCode = true)
    (hj : i.r.jn = 0 ∨ i.r.jn = 1) :
    (step i).crop.pesum
      = fmax ((i.r.pesum - ((residOf i).nsa + (residOf i).nla + (residOf i).ndi) - i.crop.worg.getD 0 0 * i.wugeh) * (1 - i.yifak))
             (820 * i.r.gehob + i.crop.worg.getD 0 0 * i.wugeh) ∧
    820 * i.r.gehob + i.crop.worg.getD 0 0 * i.wugeh ≤ (step i).crop.pesum := by
  have hjb : (isEq i.r.jn 0 || isEq i.r.jn 1) = true := by
    rcases hj with h | h <;> simp [(isEq_iff _ _).mpr h]
  -- `a ∧ b` from `a` and `a → b`: the equation stands once, in the goal, and the bound is read off it
  refine (and_iff_left_of_imp fun e => ?_).mpr ?_
  · rw [e, fmax_eq_max]; exact le_max_right _ _
  · rw [step_crop, hk, hn]
    simp only [afterCut, pinit, finalReset, hjb, Bool.and_self, if_true]

/-- **No N is created at the cut of a permanent crop (partial)**: when, after the above-ground residues, the crop
still holds the floor `820·GEHOB + WORG[0]·WUGEH` plus the root residues handed to the pools, the yield fraction is
≥ 0 and the root residues do not exceed the root N, then crop N afterwards + jump of the pools ≤ crop N before.
The first hypothesis cannot be dropped (`C07_harvest_perennial_floor_creates_N_fails_at`): the floor is applied
whatever the crop holds. -/
theorem C07_harvest_perennial_no_creation_partial (i : In ℚ) (A : Arrays i) (reg : Regular i)
    (hk : i.r.dauerkult = true) (hn : i.nextPerennialCode = true) (hj : i.r.jn = 0 ∨ i.r.jn = 1)
    (hfloor : 820 * i.r.gehob + i.crop.worg.getD 0 0 * i.wugeh + (residOf i).dgu * rootShare i
        ≤ i.r.pesum - (residOf i).nresid)
    (hroot : i.crop.worg.getD 0 0 * i.wugeh ≤ i.r.pesum - (residOf i).nresid)
    (hy0 : 0 ≤ i.yifak)
    (hdead : (residOf i).dgu * rootShare i ≤ i.crop.worg.getD 0 0 * i.wugeh) :
    (step i).crop.pesum + poolGain i ≤ i.r.pesum := by
  obtain ⟨a, _, d, _, _⟩ := residOf_split i
  obtain ⟨e, _⟩ := C07_harvest_perennial_keeps i hk hn hj
  have hsum : (residOf i).nsa + (residOf i).nla + (residOf i).ndi = (residOf i).nresid := by rw [d, add_zero, a]
  rw [e, hsum, C07_harvest_pool_gain i A, step_res]
  simp only [reg.2, Bool.false_eq_true, if_false]
  have h1 : 0 ≤ i.r.pesum - (residOf i).nresid - i.crop.worg.getD 0 0 * i.wugeh := by linarith
  have h2 := mul_le_of_le_one_right h1 (show 1 - i.yifak ≤ 1 by linarith)
  rw [fmax_eq_max, ← le_sub_iff_add_le]
  exact max_le (by linarith) (by linarith)

/-- the hypotheses are satisfiable: a dense grass sward (5000 kg/ha, crop N 140) cut with all residues removed -/
def denseSward : In ℚ :=
  { first := false,
    r := { dauerkult := true, isAA := false, jn := 1, pesum := 140, obmas := 5000, gehob := 0.025,
           row := { kostro := 0, nernt := 0.45, nkopp := 0, nwura := 0.1, nfast := 0 } },
    nagbOld := 0, wuant := 0.6 :: 0.3 :: List.replicate 18 0, nfos := List.replicate 21 10, naos := List.replicate 21 100,
    dsumm := 0, yorgan := 0, yifak := 0.8, wugeh := 0.01,
    crop := { pesum := 140, obmas := 5000, wumas := 1500, lai := 4, wurz := 2, worg := [1500, 3000, 2000, 0, 0], standing := true },
    naltos := 3000, nakt := 0.13, domeng1 := 0, windowPassed := false, automan := false, orgH := false,
    nsas := 0, nlas := 0, ndir := 0, nextPerennialCode := true }

example : Arrays denseSward ∧ Regular denseSward ∧
    820 * denseSward.r.gehob + denseSward.crop.worg.getD 0 0 * denseSward.wugeh + (residOf denseSward).dgu * rootShare denseSward
      ≤ denseSward.r.pesum - (residOf denseSward).nresid ∧
    denseSward.crop.worg.getD 0 0 * denseSward.wugeh ≤ denseSward.r.pesum - (residOf denseSward).nresid ∧
    (residOf denseSward).dgu * rootShare denseSward ≤ denseSward.crop.worg.getD 0 0 * denseSward.wugeh := by
  refine ⟨?_, ⟨rfl, rfl⟩, by decide +kernel⟩
  constructor <;> decide +kernel

/-- a thin grass sward (400 kg/ha above ground, crop N 10) cut with all residues removed, grass again afterwards -/
def floorWitness : In ℚ :=
  { first := false,
    r := { dauerkult := true, isAA := false, jn := 1, pesum := 10, obmas := 400, gehob := 0.02,
           row := { kostro := 0, nernt := 0.45, nkopp := 0, nwura := 0.1, nfast := 0 } },
    nagbOld := 0, wuant := 0.6 :: 0.3 :: List.replicate 18 0, nfos := List.replicate 21 10, naos := List.replicate 21 100,
    dsumm := 0, yorgan := 0, yifak := 0.8, wugeh := 0.01,
    crop := { pesum := 10, obmas := 400, wumas := 200, lai := 1, wurz := 2, worg := [200, 300, 100, 0, 0], standing := true },
    naltos := 3000, nakt := 0.13, domeng1 := 0, windowPassed := false, automan := false, orgH := false,
    nsas := 0, nlas := 0, ndir := 0, nextPerennialCode := true }

/-- **The N floor of a cut permanent crop creates N**: 10 kg N/ha before the cut, 0.18 go to the pools, the crop
holds 18.4 afterwards. (Replayed on the real `Nitro`: signature `harvest:permanent-crop:floor-creates-crop-N`.) -/
theorem C07_harvest_perennial_floor_creates_N_fails_at :
    poolGain floorWitness = 0.18 ∧ (step floorWitness).crop.pesum = 18.4 ∧
    ¬ ((step floorWitness).crop.pesum + poolGain floorWitness ≤ floorWitness.r.pesum) := by
  decide +kernel

/-- **The N fields of the crop record are non-negative** for crop N ≥ 0 and a root share of the crop N ≤ 1 (above-ground residues by the clamp of `resid`). -/
theorem C07_harvest_record_nonneg (i : In ℚ) (reg : Regular i) (hp : 0 ≤ i.r.pesum)
    (w1 : i.r.row.nwura ≤ 1) :
    0 ≤ (step i).recv.nuptake ∧ 0 ≤ (step i).recv.nagb ∧ 0 ≤ (step i).recv.nresid ∧ (step i).recv.nuptake = i.r.pesum ∧
    (step i).recv.nresid = (step i).res.nresid := by
  obtain ⟨e1, e2, e3⟩ := step_recv_noskip i reg.2
  rw [e1, e2, e3, step_res, residOf_regular reg.1]
  exact ⟨hp, sub_nonneg.2 (mul_le_of_le_one_right hp w1), (resid_split i.r).above0, rfl, rfl⟩

/-- **The skipped-crop branch applies what it books**: the SKIPPED record carries `OrgN = NSAS + NLAS + NDIR` of the
harvested entry, and all three parts reach their pool — NSAS the top cell of NFOS, NLAS the top cell of NAOS, NDIR
the fertiliser sum DSUMM — so that OrgN = (jump of Σ(NFOS + NAOS) beyond the crop residues) + ΔDSUMM; the rotation
index advances by two and one (SKIPPED) record is written. -/
theorem C07_harvest_skipped_books (i : In ℚ) (A : Arrays i) (hs : skipOf i = true) :
    (step i).recv.orgN = i.nsas + i.nlas + i.ndir ∧
    (step i).nfos.getD 0 0 = (nfosAfterResidues i).getD 0 0 + i.nsas ∧
    (step i).naos.getD 0 0 = (naosAfterResidues i).getD 0 0 + i.nlas ∧
    (step i).dsumm = i.dsumm + i.ndir ∧
    (step i).recv.orgN
      = (poolGain i - ((step i).res.nresid + (step i).res.dgu * rootShare i)) + ((step i).dsumm - i.dsumm) ∧
    (step i).akfInc = 2 ∧ (step i).record = true ∧ (step i).recv.nuptake = 0 := by
  have d := (residOf_split i).ndi
  have hg := C07_harvest_pool_gain i A
  have hd : (step i).dsumm = i.dsumm + i.ndir := by rw [step_dsumm, hs, d]; simp
  obtain ⟨ho, hn⟩ := step_recv_skip i hs
  refine ⟨ho, ?_, ?_, hd, ?_, ?_, ?_, hn⟩
  · rw [step_nfos, hs, addTop_getD, if_pos ⟨rfl, pool_ne_nil _ _ _ _ _ A.nfos_ne_nil⟩]; rfl
  · rw [step_naos, hs, addTop_getD, if_pos ⟨rfl, pool_ne_nil _ _ _ _ _ A.naos_ne_nil⟩]; rfl
  · rw [ho, hg, hd, hs]; simp only [if_true]; ring
  · rw [step_akfInc, hs]; rfl
  · rw [step_record, hs]; rfl

/-- harvest with automatic sowing, the window of the next entry has passed, slurry after harvest configured -/
def skipWitness : In ℚ :=
  { lossWitness with
    r := { lossWitness.r with pesum := 0, obmas := 0 },
    crop := { lossWitness.crop with pesum := 0, obmas := 0 },
    windowPassed := true, automan := true, orgH := true, nsas := 30, nlas := 50, ndir := 20 }

/-- regression witness of the defect repaired by "fix: the skipped-crop branch of automatic sowing adds the fast organic
N of the dressing to NFOS" (signature `harvest:skipped-crop:fast-manure-N-recorded-not-applied`): the record reports
100 kg N/ha of organic fertiliser, the pools gain 80 (NSAS 30 into NFOS, NLAS 50 into NAOS), DSUMM 20. In the code
before the repair the pools gain 50 and 30 kg N/ha reach no pool. -/
example :
    Arrays skipWitness ∧ skipOf skipWitness = true ∧
    (step skipWitness).recv.orgN = 100 ∧ poolGain skipWitness = 80 ∧ (step skipWitness).dsumm - skipWitness.dsumm = 20 ∧
    (step skipWitness).recv.orgN = poolGain skipWitness + ((step skipWitness).dsumm - skipWitness.dsumm) := by
  refine ⟨?_, by decide +kernel⟩
  constructor <;> decide +kernel

/-- **The rotation index moves as in the rotation model** (`Rotation.harvest`, C16): by two in the skipped-crop
branch, by one otherwise, and a record is written unless the entry is the pre-crop of the start date. -/
theorem C07_harvest_akf_as_rotation (i : In ℚ) (c : Rotation.Cfg) (zeit : ℕ) (s : Rotation.St)
    (hz : zeit = s.ernte s.akf) (hc : c.automan = i.automan)
    (hw : decide (s.saat2 (s.akf + 1) ≤ zeit) = i.windowPassed) (hf : i.first = decide (s.akf = 0)) :
    (Rotation.harvest c zeit i.orgH s).akf = s.akf + (step i).akfInc ∧
    ((step i).record = true ↔ (Rotation.harvest c zeit i.orgH s).records.length = s.records.length + 1) := by
  rw [step_akfInc, step_record]
  unfold Rotation.harvest skipOf
  rw [if_pos hz, hw, hc, hf]
  -- the skip test and `AKF = 0` decide both sides
  generalize (i.windowPassed && i.automan && i.orgH) = b
  cases b <;> by_cases h0 : s.akf = 0 <;> simp [h0, Nat.one_le_iff_ne_zero]

/-- **`pinit` clears the state of a non-permanent crop and leaves a permanent crop alone.** -/
theorem C07_pinit_resets (dauerkult : Bool) (s : CropSt ℚ) :
    (dauerkult = false → (pinit dauerkult s).pesum = 0 ∧ (pinit dauerkult s).obmas = 0 ∧ (pinit dauerkult s).wumas = 0 ∧
        (pinit dauerkult s).wurz = 0 ∧ (pinit dauerkult s).standing = false) ∧
    (dauerkult = true → pinit dauerkult s = s) := by
  constructor <;> rintro rfl <;> simp [pinit]

end Hermes.Harvest
