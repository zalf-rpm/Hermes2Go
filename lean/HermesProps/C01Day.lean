/-
C01 — the day balance in the property's own terms.  The surface flux FLUSS0 of the evapotranspiration
routine (HermesModel/Evatra.lean) is rain + irrigation − actual evaporation and the sub-steps cover the
day (STEPS·WDT = 1), so for every day split into k equal sub-steps the stored profile water changes by
(rain + irrigation − actual evaporation) − Σ uptake − Σ lower-boundary flux − Σ drain outflow, whatever k is.
-/
import HermesProps.C01
import HermesProofs.Evatra
namespace Hermes.Water

/-- The flux the evapotranspiration routine hands to the water routine is the water
reaching the surface (rain + irrigation, `REGEN`) minus the actual evaporation `ETA` — for every state,
weather, ET method value, crop or bare soil. -/
theorem C01_surface_flux_is_rain_minus_evaporation (e : Evatra.In ℚ) :
    (Evatra.partition e).fluss0 = e.regen - (Evatra.partition e).eta := by
  rw [Evatra.partition_fluss0, Evatra.partition_eta]
  ring

/-- per-sub-step sinks of the balance: uptake, flux through the lower boundary, drain outflow -/
noncomputable def sinks (w : ℚ) (l : List (Out ℚ × In ℚ)) : ℚ :=
  l.foldr (fun p acc => acc + (w * p.1.tp.sum + p.1.q1.getLastD 0 + p.1.qdrain)) 0

theorem foldr_equal_substeps (F w : ℚ) : ∀ (l : List (Out ℚ × In ℚ)),
    (∀ p ∈ l, p.2.fluss0 = F ∧ p.2.wdt = w) →
    l.foldr (fun p acc => acc + (p.2.fluss0 * p.2.wdt - p.2.wdt * p.1.tp.sum - p.1.q1.getLastD 0 - p.1.qdrain)) 0
      = (l.length : ℚ) * (F * w) - sinks w l := by
  intro l
  induction l with
  | nil => intro _; simp [sinks]
  | cons p rest ih =>
    intro h
    have hp := h p (by simp)
    have hr := ih (fun q hq => h q (by simp [hq]))
    simp only [List.foldr_cons, sinks, List.length_cons] at *
    rw [hr, hp.1, hp.2]
    push_cast
    ring

/-- If the day is split into `k`
sub-steps of length `wdt` with `k·wdt = 1` (which `C01_substeps_cover_day` shows the selection always
does), every sub-step sees the surface flux of the day's evapotranspiration call, and the states are
well formed, then the stored water changes by rain + irrigation − actual evaporation − the summed
uptake − the summed flux through the lower boundary − the summed drain outflow. -/
theorem C01_day_balance_in_public_terms (e : Evatra.In ℚ) (n : ℕ) (dz : ℚ) (hdz : dz ≠ 0)
    (k : ℕ) (wdt : ℚ) (hk : (k : ℚ) * wdt = 1)
    (subs : List (In ℚ)) (wg : List ℚ) (hlen : subs.length = k) (hwg : wg.length = n)
    (hwf : ∀ i ∈ subs, ∀ wg', wg'.length = n → WF { i with wg := wg' } n)
    (hsame : ∀ i ∈ subs, i.dz = dz ∧ i.wdt = wdt ∧ i.fluss0 = (Evatra.partition e).fluss0) :
    storage dz (dayFinal subs wg) =
      storage dz wg + (e.regen - (Evatra.partition e).eta) - sinks wdt ((dayRun subs wg).zip subs) := by
  have hb := C01_water_day_balance n dz hdz subs wg hwg hwf (fun i hi => (hsame i hi).1)
  have hz : ∀ p ∈ (dayRun subs wg).zip subs, p.2.fluss0 = (Evatra.partition e).fluss0 ∧ p.2.wdt = wdt := by
    intro p hp
    have := List.of_mem_zip hp
    exact ⟨(hsame p.2 this.2).2.2, (hsame p.2 this.2).2.1⟩
  rw [foldr_equal_substeps _ _ _ hz] at hb
  have hl : ((dayRun subs wg).zip subs).length = k := by
    simp [List.length_zip, dayRun_length, hlen]
  rw [hl] at hb
  rw [hb, C01_surface_flux_is_rain_minus_evaporation]
  linear_combination (e.regen - (Evatra.partition e).eta) * hk

noncomputable def exampleSub (e : Evatra.In ℚ) : In ℚ :=
  { exampleIn with wdt := 1 / 2, fluss0 := (Evatra.partition e).fluss0 }

example (e : Evatra.In ℚ) :
    ((2 : ℕ) : ℚ) * (1 / 2) = 1 ∧ [exampleSub e, exampleSub e].length = 2 ∧
    (∀ i ∈ [exampleSub e, exampleSub e], ∀ wg', wg'.length = 2 → WF { i with wg := wg' } 2) ∧
    (∀ i ∈ [exampleSub e, exampleSub e], i.dz = 10 ∧ i.wdt = 1 / 2 ∧ i.fluss0 = (Evatra.partition e).fluss0) := by
  refine ⟨by norm_num, rfl, ?_, ?_⟩
  · intro i hi wg' hw
    simp only [List.mem_cons, List.mem_nil_iff, or_false, or_self] at hi
    subst hi
    constructor <;> simp [exampleSub, exampleIn, hw]
  · intro i hi
    simp only [List.mem_cons, List.mem_nil_iff, or_false, or_self] at hi
    subst hi
    simp [exampleSub, exampleIn]

end Hermes.Water
