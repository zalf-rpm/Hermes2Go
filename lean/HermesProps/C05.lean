/-
C05 — Output records: one per day, year and harvested crop, complete, in order; every record has
exactly as many fields as the output configuration defines columns.

Models: HermesModel/RecordLoop.lean
(run.go:131-140, 315-357, 643-651, 673-687, 728-739; nitro.go:293-468), HermesModel/Output.lean
(output_fmt.go:2047-2398), calendar from HermesModel/Calendar.lean (C12).

Readings (DESIGN §6 C05):
* "end date" is ENDE as the loop uses it: run.go:135-137 moves it to the day after the annual
  output date of the end year when that date is not before the configured end (`setup`).
* the pre-crop harvested on the start date yields no crop record (AKF.Index = 0).
* the annual output date is the calendar date (month, day) of AnnualOutputDate evaluated in the end
  year; a 29.02. is written on 01.03. in years without a 29.02.; when the end year itself has no
  29.02. the date evaluates to 01.03. and is written on 01.03. in every year.
* repaired code (fixes/C05-1, C05-2): every configured column contributes one field; the yearly
  record is keyed by month and day.
-/
import HermesProofs.RecordLoop
import HermesProofs.Cursor
import HermesProofs.Output

namespace Hermes.RecordLoop
open Hermes.Calendar

/-- With output interval `k` the daily WriteLine is reached exactly on the days of BEGINN … ENDE
whose day number is a multiple of `k`, each once, in increasing order. -/
theorem C05_daily_records (b e k : Nat) :
    (∀ z, z ∈ dailyWrites k (window b e) ↔ (b ≤ z ∧ z ≤ e ∧ 0 < k ∧ z % k = 0)) ∧
    (dailyWrites k (window b e)).Pairwise (· < ·) := by
  constructor
  · intro z
    unfold dailyWrites
    rw [List.mem_filter, mem_window]
    simp only [Bool.and_eq_true, decide_eq_true_eq, beq_iff_eq, and_assoc]
  · exact (window_pairwise b e).sublist List.filter_sublist

/-- Interval 1: one record for every day number from BEGINN to ENDE inclusive, consecutive. -/
theorem C05_daily_every_day (b e : Nat) :
    dailyWrites 1 (window b e) = List.range' b (e + 1 - b) := by
  unfold dailyWrites window
  rw [List.filter_eq_self]
  intro z _; simp [Nat.mod_one]

/-- Interval 0 (daily output off): no daily record. -/
theorem C05_daily_off (zs : List Nat) : dailyWrites 0 zs = [] := by
  unfold dailyWrites
  rw [List.filter_eq_nil_iff]
  intro z _; simp

/-- Consecutive day numbers are rendered as consecutive calendar days (incl. 29 February and the
turn of the year): the date written for ZEIT + 1 is the calendar successor of the date written for
ZEIT.  (AKTUELL = Kalender(ZEIT); rendering of a date is injective by C12.) -/
theorem C05_daily_consecutive_dates (z : Nat) (h1 : 1 ≤ z) (h2 : z < 72684) :
    ∃ yr mon tg, ValidDate yr mon tg ∧ kalenderDate z = some (yr + 1900, mon, tg) ∧
      kalenderDate (z + 1) =
        some ((nextDate (yr, mon, tg)).1 + 1900, (nextDate (yr, mon, tg)).2.1, (nextDate (yr, mon, tg)).2.2) := by
  obtain ⟨yr, mon, tg, hv, hk, hm⟩ := kalender_of_range z h1 (by omega)
  refine ⟨yr, mon, tg, hv, hk, ?_⟩
  rcases hn : nextDate (yr, mon, tg) with ⟨a, b, c⟩
  obtain ⟨e, hv'⟩ := nextDate_spec yr mon tg a b c hv hn
  have := kalender_masdat (hv' (by omega))
  rw [e, hm] at this
  simpa using this

/-- The yearly WriteLine is reached exactly on the days of BEGINN … ENDE that fall on the annual
output date, each once, in increasing order. -/
theorem C05_yearly_records (om od b e : Nat) :
    (∀ z, z ∈ yearlyWrites om od (window b e) ↔
      (b ≤ z ∧ z ≤ e ∧ isAnnualOutputDay z om od = true)) ∧
    (yearlyWrites om od (window b e)).Pairwise (· < ·) :=
  ⟨fun z => mem_yearlyWrites om od b e z, yearlyWrites_pairwise om od b e⟩

/-- run.go:140 recovers month and day of the configured annual output date. -/
theorem C05_yearly_setup_date (sy sm sd ey em ed am ad : Nat) (hve : ValidDate ey am ad) :
    (setup sy sm sd ey em ed am ad).outMonth = am ∧ (setup sy sm sd ey em ed am ad).outDay = ad := by
  simp only [setup, kalender_masdat hve, and_self]

/-- The extension of ENDE (run.go:135-137) keeps the configured annual date of the end year
inside the simulated period. -/
theorem C05_yearly_end_year_included (sy sm sd ey em ed am ad : Nat) :
    masdat ey am ad ≤ (setup sy sm sd ey em ed am ad).ende := by
  show masdat ey am ad ≤ (if masdat ey am ad ≥ masdat ey em ed then masdat ey am ad + 1 else masdat ey em ed)
  split <;> omega

/-- Exactly one yearly record per simulated year, on the configured annual output date: for every
year `yr` that has the date `ad.am.`, the yearly writes falling into that year are the day number of
`ad.am.yr` if it lies in BEGINN … ENDE and nothing otherwise — whatever the leap status of `yr` and
of the end year. -/
theorem C05_yearly_on_configured_date (sy sm sd ey em ed am ad : Nat) (hve : ValidDate ey am ad)
    (s : Setup) (hs : s = setup sy sm sd ey em ed am ad) (hb : 1 ≤ s.beginn) (he : s.ende ≤ 72684)
    (yr : Nat) (hv : ValidDate yr am ad) :
    (yearlyWrites s.outMonth s.outDay (window s.beginn s.ende)).filter (fun z => yearOf z == yr + 1900) =
      (if s.beginn ≤ masdat yr am ad ∧ masdat yr am ad ≤ s.ende then [masdat yr am ad] else []) ∧
    kalenderDate (masdat yr am ad) = some (yr + 1900, am, ad) := by
  obtain ⟨hom, hod⟩ := C05_yearly_setup_date sy sm sd ey em ed am ad hve
  rw [← hs] at hom hod
  rw [hom, hod]
  exact ⟨yearly_year_filter am ad s.beginn s.ende yr am ad hb he hv ((isAnnual_masdat am ad hv).mpr (Or.inl ⟨rfl, rfl⟩)),
    kalender_masdat hv⟩

/-- Annual output date 29.02. (end year a leap year): in a simulated year without a 29.02. the one
yearly record is written on 01.03. -/
theorem C05_yearly_feb29_other_years (sy sm sd ey em ed : Nat) (hve : ValidDate ey 2 29)
    (s : Setup) (hs : s = setup sy sm sd ey em ed 2 29) (hb : 1 ≤ s.beginn) (he : s.ende ≤ 72684)
    (yr : Nat) (hy1 : 1 ≤ yr) (hy2 : yr ≤ 199) (hnl : yr % 4 ≠ 0) :
    (yearlyWrites s.outMonth s.outDay (window s.beginn s.ende)).filter (fun z => yearOf z == yr + 1900) =
      if s.beginn ≤ masdat yr 3 1 ∧ masdat yr 3 1 ≤ s.ende then [masdat yr 3 1] else [] := by
  obtain ⟨hom, hod⟩ := C05_yearly_setup_date sy sm sd ey em ed 2 29 hve
  rw [← hs] at hom hod
  rw [hom, hod]
  have hv : ValidDate yr 3 1 := ⟨hy1, hy2, by omega, by omega, by omega, by simp [daysInMonth]⟩
  exact yearly_year_filter 2 29 s.beginn s.ende yr 3 1 hb he hv
    ((isAnnual_masdat 2 29 hv).mpr (Or.inr ⟨rfl, rfl, rfl, rfl, hnl⟩))

/-- An annual output date 29.02. with an end year that has no 29.02. is the configuration 01.03.
(Datum adds 29 to the February offset): the same set-up, hence the same records. -/
theorem C05_yearly_feb29_nonleap_end (sy sm sd ey em ed : Nat) (hnl : ey % 4 ≠ 0) :
    setup sy sm sd ey em ed 2 29 = setup sy sm sd ey em ed 3 1 := by
  have : masdat ey 2 29 = masdat ey 3 1 := by
    simp [masdat, monthOffset, mtStart, hnl]
  simp only [setup, this]

/-- Regression witnesses of the two repaired defects: start 01.09.1980 … 31.12.1981 with annual date 30.09. gives 30.09.1980 and
30.09.1981; start 01.12.1984 … 31.12.1984 with annual date 31.12. gives 31.12.1984 (and ENDE is
still extended to 01.01.1985). -/
theorem C05_yearly_regression_witnesses :
    (records 80 9 1 81 12 31 9 30 1 [masdat 80 9 1]).2.1 = [masdat 80 9 30, masdat 81 9 30] ∧
    (records 84 12 1 84 12 31 12 31 1 [masdat 84 12 1]).2.1 = [masdat 84 12 31] ∧
    (setup 84 12 1 84 12 31 12 31).ende = masdat 85 1 1 := by
  decide +kernel

/-- With fixed sowing and harvest dates, harvest days strictly increasing along the rotation and
the initial crop harvested on the start day: one crop record per rotation element whose harvest day
lies in BEGINN … ENDE, in rotation order, numbered by its rotation index, none for the initial
crop (index 0), none for crops harvested after ENDE. -/
theorem C05_crop_records (ernte : List Nat) (b e : Nat) (hb : 1 ≤ b) (hsorted : ernte.Pairwise (· < ·))
    (hstart : ∀ h ∈ ernte, b ≤ h) :
    cropWrites ernte (window b e) 0 =
      ((ernte.takeWhile (fun h => decide (h ≤ e))).zipIdx 0).filter (fun p => decide (p.2 ≥ 1)) := by
  unfold window
  -- a harvest day is not before `b`: "before the end of the window" is "not after `e`", also when the window is empty
  rw [cropWrites_eq_runCursor, ← Schedule.daysFrom_eq,
    Schedule.runCursor_spec ernte _ 0 b ernte [] (List.append_nil _).symm hsorted hstart hb,
    takeWhile_congr (q := fun h => decide (h ≤ e)) fun h hh => decide_eq_decide.mpr (by have := hstart h hh; omega)]

/-- Every crop record is written on the harvest day of its rotation element, and the rotation
indices of successive records increase by exactly one (rotation order, nothing skipped). -/
theorem C05_crop_records_in_rotation_order (ernte : List Nat) (b e : Nat) (hb : 1 ≤ b)
    (hsorted : ernte.Pairwise (· < ·)) (hstart : ∀ h ∈ ernte, b ≤ h) :
    (∀ p ∈ cropWrites ernte (window b e) 0, 1 ≤ p.2 ∧ ernte[p.2]? = some p.1 ∧ p.1 ≤ e) := by
  intro p hp
  rw [C05_crop_records ernte b e hb hsorted hstart, List.mem_filter, List.mem_zipIdx_iff_getElem?] at hp
  obtain ⟨hmem, hge⟩ := hp
  -- the records are a prefix of `ERNTE`, cut before the first harvest day after `e`
  obtain ⟨hi, hh⟩ := List.getElem?_eq_some_iff.mp hmem
  refine ⟨by simpa using hge, ?_, ?_⟩
  · rw [← hh]; exact List.prefix_iff_getElem?.mp (List.takeWhile_prefix _) _ hi
  · simpa using List.all_eq_true.mp List.all_takeWhile _ (List.mem_of_getElem? hmem)

end Hermes.RecordLoop

namespace Hermes.Output

/-- In both styles one WriteLine call writes one record with exactly as many fields as the
configuration defines columns — for every non-empty configuration, whatever its columns are bound
to (the call panics only for an index beyond the length of a `[]float64`, see
`C05_fields_cell_kinds`). -/
theorem C05_fields_eq_columns (style : Style) (refs : List Ref) (hne : refs ≠ []) :
    record style refs = some refs.length := by
  rw [record_eq, if_pos (List.length_pos_iff.mpr hne)]

/-- A configuration without columns writes no record. -/
theorem C05_fields_empty (style : Style) : record style [] = none := by
  cases style <;> rfl

/-- What the field of a column shows: the value of the variable iff the reference resolves — through
at most one sub-field step and two array index steps — to a variable of a basic kind (int, float64,
bool, string, named integer types, …) or to an element, inside its length, of a slice of such; the
n.a. text otherwise; a panic exactly for a `[]float64` index beyond the length. -/
theorem C05_fields_cell_kinds (r : Ref) (i1 sl : Nat) :
    (cell r i1 sl = .value ↔
      ∃ t, t.isBasic = true ∧ (r = .ptr t ∨ (r = .ptr (.slice t) ∧ i1 < sl))) ∧
    (cell r i1 sl = .panic ↔ (r = .ptr (.slice .float64) ∧ sl ≤ i1)) := by
  cases r with
  | na => simp [cell]
  | ptr t =>
    cases t with
    | slice e =>
      -- a slice shows a value for a basic element inside its length; only `[]float64` is indexed without a guard
      have hv : cell (.ptr (.slice e)) i1 sl = .value ↔ e.isBasic = true ∧ i1 < sl := by
        cases e <;> simp [cell, Ty.isBasic]
      have hp : cell (.ptr (.slice e)) i1 sl = .panic ↔ e = .float64 ∧ sl ≤ i1 := by
        cases e <;> simp [cell, Ty.isBasic] <;> split <;> simp_all
      rw [hv, hp]
      refine ⟨⟨fun ⟨hb, hi⟩ => ⟨e, hb, Or.inr ⟨rfl, hi⟩⟩, ?_⟩, by simp⟩
      rintro ⟨t, ht, h | ⟨h, hi⟩⟩
      · cases h; simp [Ty.isBasic] at ht
      · cases h; exact ⟨ht, hi⟩
    | _ => simp [cell, Ty.isBasic]

/-- Every column that binds to a model variable of a kind the property quantifies over (scalars and
text, directly, as array elements and as nested fields) shows the value of that variable. -/
theorem C05_fields_model_variables_written (ft : FieldTy) (sub : String) (i1 i2 sl : Nat) (t : Ty)
    (hb : bind ft sub i1 i2 = .ptr t) (ht : t.isBasic = true) :
    cell (bind ft sub i1 i2) i1 sl = .value := by
  rw [hb]
  exact ((C05_fields_cell_kinds (.ptr t) i1 sl).1).mpr ⟨t, ht, Or.inl rfl⟩

/-- Regression witnesses of the repaired defect:
[AKTUELL, AUTOMAN] (string, bool) and [AKTUELL, FRUCHT[1]] (string, element of [300]CropType) give
two fields in both styles, a single bool column one field. -/
theorem C05_fields_regression_witnesses :
    record .csv [bind (.plain .string) "" 0 0, bind (.plain .bool) "" 0 0] = some 2 ∧
    record .fixed [bind (.plain .string) "" 0 0, bind (.plain .bool) "" 0 0] = some 2 ∧
    record .csv [bind (.plain .string) "" 0 0, bind (.plain (.array 300 .namedInt)) "" 1 0] = some 2 ∧
    record .fixed [bind (.plain .string) "" 0 0, bind (.plain (.array 300 .namedInt)) "" 1 0] = some 2 ∧
    record .csv [bind (.plain .bool) "" 0 0] = some 1 ∧
    cell (bind (.plain (.array 300 .namedInt)) "" 1 0) 1 0 = .value ∧
    cell (bind (.plain (.slice .int)) "" 2 0) 2 3 = .value ∧
    cell (bind (.plain (.slice .int)) "" 3 0) 3 3 = .na ∧
    cell (bind (.plain .opaque) "" 0 0) 0 0 = .na := by
  decide

-- a configuration with a scalar, an array element, a 2-dim element, a nested field, text, a bool,
-- an unknown variable: seven columns, seven fields in both styles
def exampleRefs : List Ref :=
  [bind (.plain .float64) "" 0 0, bind (.plain (.array 21 .float64)) "" 20 0,
    bind (.plain (.array 3 (.array 21 .float64))) "" 2 20,
    bind (.struct [("Index", .int), ("Num", .float64), ("Offset", .int)]) "Index" 0 0,
    bind (.plain .string) "" 0 0, bind (.plain .bool) "" 0 0, bind .missing "" 0 0]
example : record .csv exampleRefs = some 7 ∧ record .fixed exampleRefs = some 7 ∧ exampleRefs ≠ [] := by
  decide
-- out-of-range index and struct without sub-field bind to the n.a. text
example : bind (.plain (.array 21 .float64)) "" 21 0 = .na ∧
    bind (.struct [("Index", .int)]) "" 0 0 = .na := by decide
-- the hypothesis of C05_fields_model_variables_written is met by FRUCHT[1]
example : bind (.plain (.array 300 .namedInt)) "" 1 0 = .ptr .namedInt ∧ Ty.namedInt.isBasic = true := by
  decide

end Hermes.Output

namespace Hermes.RecordLoop
open Hermes.Calendar

instance (yr mon tg : Nat) : Decidable (ValidDate yr mon tg) := by
  unfold ValidDate; exact inferInstance

-- the hypotheses of the yearly theorems are met by a concrete run (01.09.1980 … 31.12.1981, 30.09.)
example : ValidDate 81 9 30 ∧ ValidDate 80 9 30 ∧ 1 ≤ (setup 80 9 1 81 12 31 9 30).beginn ∧
    (setup 80 9 1 81 12 31 9 30).ende ≤ 72684 := by decide
-- 29.02. with a leap end year, a year without 29.02.
example : ValidDate 84 2 29 ∧ 83 % 4 ≠ 0 ∧
    (records 83 1 1 84 12 31 2 29 0 [masdat 83 1 1]).2.1 = [masdat 83 3 1, masdat 84 2 29] := by decide +kernel
-- a rotation: initial crop harvested on day 10 (= BEGINN), crops harvested on days 30, 70, 120;
-- ENDE = 100: records for rotation elements 1 and 2 only
example : cropWrites [10, 30, 70, 120] (window 10 100) 0 = [(30, 1), (70, 2)] := by decide
example : [10, 30, 70, 120].Pairwise (· < ·) ∧ ∀ h ∈ [10, 30, 70, 120], 10 ≤ h := by decide
-- interval 7 over three weeks
example : dailyWrites 7 (window 29099 29120) = [29099, 29106, 29113, 29120] := by decide
-- leap day: 28.02.2000 → 29.02.2000 → 01.03.2000 are consecutive day numbers
example : kalenderDate (masdat 100 2 28 + 1) = some (2000, 2, 29) ∧
    kalenderDate (masdat 100 2 28 + 2) = some (2000, 3, 1) := by decide

end Hermes.RecordLoop
